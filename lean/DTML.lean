import DTML.Basic
import DTML.Gen
import DTML.Batch
import DTML.GenCode
import DTML.GenStats
import DTML.GenVar
import DTML.GenNs
import DTML.GenScan
import DTML.GenRender
import DTML.GenCall
import DTML.GenTmpl
import DTML.GenRaise
import DTML.GenIn
import DTML.GenJoin
import DTML.GenSeqVar
import DTML.GenVarInit
import DTML.Lemmas.VarInit
import DTML.Lemmas.Call
import DTML.Lemmas.InGen
import DTML.Lemmas.InBatchGen
import DTML.Lemmas.Opt
import DTML.Lemmas.IBlock
import DTML.Lemmas.ScanGen
import DTML.Lemmas.Join
import DTML.Lemmas.SeqVar
import DTML.Lemmas.LoopVars
import DTML.Props.C11
import DTML.Props.C12
import DTML.Quote
import DTML.Props.C03
import DTML.VarPipe
import DTML.Lemmas.VarPipe
import DTML.Lemmas.Quote
import DTML.ExtImpl
import DTML.GenTaint
import DTML.Lemmas.Taint
import DTML.GenParams
import DTML.Lemmas.Params
import DTML.GenUstr
import DTML.Lemmas.Ustr
import DTML.Props.C04
import DTML.Props.C15
import DTML.Sort
import DTML.GenSort
import DTML.Lemmas.SortGen
import DTML.Props.C13
import DTML.Stats
import DTML.Props.C16
import DTML.TreeCodec
import DTML.GenTree
import DTML.Lemmas.TreeCodec
import DTML.Lemmas.TreeCodecGen
import DTML.Props.C20
import DTML.TreeState
import DTML.Scan
import DTML.Parse
import DTML.Props.C01
import DTML.Props.C06
import DTML.Render
import DTML.Props.C08
import DTML.Props.C09
import DTML.Props.C14
import DTML.Props.C02
import DTML.Props.C19
import DTML.Props.C10
import DTML.Props.C07
import DTML.Tmpl
import DTML.Props.C17
import DTML.Conc
import DTML.Props.C18
import DTML.Props.C05
import DTML.Lemmas.Lookup
import DTML.Lemmas.Interp
import DTML.Lemmas.FuelOrder
import DTML.Lemmas.Invariant
import DTML.Lemmas.Fuel
import DTML.Lemmas.Cache
import DTML.Lemmas.Scanner
import DTML.Lemmas.Builder
import DTML.Lemmas.Print
import DTML.GenTreeState
import DTML.Lemmas.TreeState
import DTML.Lemmas.TreeGen
import DTML.GenIfCompile
import DTML.Lemmas.IfCompile
import DTML.GenStack
import DTML.Lemmas.Stack
import DTML.GenFetch
import DTML.Lemmas.Fetch
import DTML.GenParseTag
import DTML.Lemmas.ParseTag
import DTML.GenParseLoop
import DTML.Lemmas.ParseLoop
import DTML.GenEnsure
