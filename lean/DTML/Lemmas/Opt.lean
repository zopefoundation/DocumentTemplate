/-
What `DT_InSV.opt` (`Batch.opt`) computes in each of its three modes - start and end given, no end, only the end - and
what the clamp of `renderwb` (`Batch.window`) adds; then which elements it asks the sequence for in each mode (`Batch.optT`).
The window, link and pull-bound theorems of Props/C11 and Props/C12 are linear arithmetic over these closed forms.
-/
import DTML.Batch
namespace DTML.Batch

/-- the size `opt` works with: the one given, else the length of an explicit span, else 7 -/
def effSize (start end_ size : Int) : Int :=
  if size < 1 then (if start > 0 ∧ end_ > 0 ∧ end_ ≥ start then end_ + 1 - start else 7) else size

theorem effSize_of_pos (a b sz : Int) (h : 1 ≤ sz) : effSize a b sz = sz := by
  simp only [effSize]; omega

theorem effSize_pos (a b sz : Int) : 1 ≤ effSize a b sz := by
  simp only [effSize]; omega

theorem probe_nonneg (s : Seq) (i : Int) (h : 0 ≤ i) : probe s i = decide (i < s.len) := by
  simp only [probe, Int.not_lt.mpr h, if_false]

/-- `try: sequence[e - 1] except IndexError: e = len(sequence)`: a position beyond the sequence becomes its length.
`opt` does this to a given `start` and to a given `end`, `renderwb` to the end of the window. -/
theorem clamp_eq (s : Seq) (e : Int) (he : 1 ≤ e) : (if probe s (e - 1) then e else s.len) = min e s.len := by
  simp only [probe_nonneg s (e - 1) (by omega), decide_eq_true_eq]
  split <;> omega

/-- `try: sequence[e + orphan - 1] except IndexError: e = len(sequence)`, the look-ahead of the modes without `end`: the
window ends at `e` when `orphan` elements or more follow it, else it takes the rest of the sequence -/
theorem ahead_eq (s : Seq) (e orphan : Int) (h : 1 ≤ e + orphan) :
    (if probe s (e + orphan - 1) then e else s.len) = if e + orphan ≤ s.len then e else s.len := by
  simp only [probe_nonneg s (e + orphan - 1) (by omega), decide_eq_true_eq]
  split <;> split <;> omega

/-- start and end given: the span, moved into the sequence -/
theorem opt_span (a b sz orphan : Int) (s : Seq) (ha : 1 ≤ a) (hb : 1 ≤ b) :
    opt a b sz orphan s = (min a s.len, max b (min a s.len), effSize a b sz) := by
  -- the size gets its name before the tests on `start` / `end` are decided (they occur inside it)
  simp only [opt, ← effSize.eq_1]
  simp only [show a > 0 from by omega, show b > 0 from by omega, if_true, clamp_eq s a ha]
  congr 2
  split <;> omega

/-- no end given: the window starts at `start` (1 if not given), moved into the sequence - whatever `orphan` is -/
theorem opt_from_start (a b sz orphan : Int) (s : Seq) (hb : b ≤ 0) (hl : 1 ≤ s.len) :
    (opt a b sz orphan s).1 = min (max 1 a) s.len := by
  simp only [opt, ← effSize.eq_1]
  simp only [Int.not_lt.mpr hb, if_false]
  by_cases ha : a > 0
  · rw [if_pos ha, clamp_eq s a ha]
    omega
  · rw [if_neg ha]
    omega

/-- no end given, `orphan ≥ 0`: the window holds `size` elements from there, or runs to the end when fewer than `orphan`
would remain after it -/
theorem opt_from (a b sz orphan : Int) (s : Seq) (hb : b ≤ 0) (hl : 1 ≤ s.len) (ho : 0 ≤ orphan) :
    opt a b sz orphan s =
      (min (max 1 a) s.len,
       (if min (max 1 a) s.len + effSize a b sz - 1 + orphan ≤ s.len then min (max 1 a) s.len + effSize a b sz - 1
        else s.len),
       effSize a b sz) := by
  have hz := effSize_pos a b sz
  simp only [opt, ← effSize.eq_1]
  simp only [Int.not_lt.mpr hb, if_false]
  by_cases ha : a > 0
  · rw [if_pos ha, clamp_eq s a ha, ahead_eq s _ _ (by omega), show max 1 a = a from by omega]
  · rw [if_neg ha, ahead_eq s _ _ (by omega), show min (max 1 a) s.len = 1 from by omega]

/-- only the end given: the `size` elements up to `end` (moved into the sequence), from the first element when fewer than
`orphan` would remain before them -/
theorem opt_upto (a b sz orphan : Int) (s : Seq) (ha : a ≤ 0) (hb : 1 ≤ b) :
    opt a b sz orphan s =
      ((if min b s.len - effSize a b sz < orphan then 1 else min b s.len + 1 - effSize a b sz), min b s.len,
       effSize a b sz) := by
  simp only [opt, ← effSize.eq_1]
  simp only [Int.not_lt.mpr ha, show b > 0 from by omega, if_true, if_false, clamp_eq s b hb]
  congr 1
  split <;> split <;> omega

/-- in every mode: the window `opt` returns starts inside the sequence and is not empty (its end may lie beyond the
sequence: `window` clamps it) -/
theorem opt_range (a b sz orphan : Int) (s : Seq) (hl : 1 ≤ s.len) (ho : 0 ≤ orphan) :
    1 ≤ (opt a b sz orphan s).1 ∧ (opt a b sz orphan s).1 ≤ (opt a b sz orphan s).2.1 ∧
      (opt a b sz orphan s).1 ≤ s.len ∧ 1 ≤ (opt a b sz orphan s).2.2 := by
  have hz := effSize_pos a b sz
  by_cases hb : 0 < b
  · by_cases ha : 0 < a
    · rw [opt_span a b sz orphan s ha hb]
      simp only
      omega
    · rw [opt_upto a b sz orphan s (Int.not_lt.mp ha) hb]
      simp only
      omega
  · rw [opt_from a b sz orphan s (Int.not_lt.mp hb) hl ho]
    simp only
    omega

theorem window_eq (a b sz orphan : Int) (s : Seq) (hl : 1 ≤ s.len) (ho : 0 ≤ orphan) :
    window a b sz orphan s =
      ((opt a b sz orphan s).1, min (opt a b sz orphan s).2.1 s.len, (opt a b sz orphan s).2.2) := by
  have h := opt_range a b sz orphan s hl ho
  simp only [window, clamp_eq s _ (Int.le_trans h.1 h.2.1)]

/-- the window `renderwb` displays lies inside the sequence and is not empty -/
theorem window_range (a b sz orphan : Int) (s : Seq) (hl : 1 ≤ s.len) (ho : 0 ≤ orphan) :
    let w := window a b sz orphan s
    1 ≤ w.1 ∧ w.1 ≤ w.2.1 ∧ w.2.1 ≤ s.len ∧ 1 ≤ w.2.2 := by
  have := opt_range a b sz orphan s hl ho
  rw [window_eq _ _ _ _ _ hl ho]
  simp only
  omega

/-! ### The same computation with its accesses (`optT`, `windowT`): the results are those above, the probes mode by mode -/

theorem optT_result (a b c d : Int) (s : Seq) : (optT a b c d s).1 = opt a b c d s := by
  simp only [optT, opt, apply_ite Prod.fst]

theorem windowT_result (a b c d : Int) (s : Seq) : (windowT a b c d s).1 = window a b c d s := by
  simp only [windowT, window, optT_result]

theorem optT_span (a b sz orphan : Int) (s : Seq) (ha : 1 ≤ a) (hb : 1 ≤ b) :
    (optT a b sz orphan s).2 = probeT s (a - 1) := by
  simp only [optT, show a > 0 from by omega, show b > 0 from by omega, if_true]

theorem optT_upto (a b sz orphan : Int) (s : Seq) (ha : a ≤ 0) (hb : 1 ≤ b) :
    (optT a b sz orphan s).2 = probeT s (b - 1) := by
  simp only [optT, Int.not_lt.mpr ha, show b > 0 from by omega, if_true, if_false]

theorem optT_from (a b sz orphan : Int) (s : Seq) (hb : b ≤ 0) :
    (optT a b sz orphan s).2 =
      (if 0 < a then probeT s (a - 1) else []) ++
        probeT s ((opt a b sz orphan s).1 + effSize a b sz - 1 + orphan - 1) := by
  simp only [optT, opt, ← effSize.eq_1]
  simp only [Int.not_lt.mpr hb, if_false]
  by_cases ha : 0 < a
  · simp only [ha, if_true]
  · simp only [ha, if_false]
    rfl

theorem windowT_trace (a b c d : Int) (s : Seq) :
    (windowT a b c d s).2 = (optT a b c d s).2 ++ probeT s ((opt a b c d s).2.1 - 1) := by
  rw [← optT_result]; rfl

end DTML.Batch
