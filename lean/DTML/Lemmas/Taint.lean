/-
Specifications of the taint bookkeeping of DT_Var (hand-written) for the definitions that harness/trans_taint.py generates
from the source on every run (DTML/GenTaint.lean), and the primitives of the model (`VarPipe`) they are instantiated with.
Props/C04 proves: generated = specification (for every primitive), specification at the model's primitives = the stage
functions of `VarPipe`.
-/
import DTML.GenTaint
namespace DTML.Lemmas.Taint
open DTML.Quote DTML.VarPipe DTML.GenTaint

/-- a string value as the pair (text, mark) the stage functions of the model work on -/
def pairOf (v : Val) : Text × Bool :=
  match v with
  | .str s t => (s, t)
  | v => (ustr v, false)

/-- and back -/
def valOf (p : Text × Bool) : Val := .str p.1 p.2

theorem pairOf_fst (r : Val) : (pairOf r).1 = ustr r := by cases r <;> rfl

/-! ### specifications over arbitrary primitives -/

/-- the C-style format stage: `'s'` keeps a TaintedString and makes a plain string of anything else; any other code
formats and marks the result again when the value was marked and the result holds a `<` -/
def cfmtSpec (P : Prims) (cfmt : Text) (v : Val) : Option (R Val) :=
  if cfmt = ['s'] then some (.ok (if isTainted v then v else strOf v))
  else
    match P.pctC cfmt v with
    | none => none
    | some (.error e) => some (.error e)
    | some (.ok r) => some (.ok (if isTainted v && hasLt (ustr r) then .str (ustr r) true else r))

/-- the `fmt=` chain -/
def fmtSpec (P : Prims) (fmt : Text) (v : Val) : Option (R Val) :=
  if P.hasAttr v fmt then P.callMethod v fmt
  else if P.isSpecial fmt then
    (if fmt = "html-quote".toList ∧ isTainted v = true then some (.ok v) else P.special fmt v)
  else if fmt = [] then some (.ok (.str [] false))
  else
    match P.pct fmt v with
    | none => none
    | some (.error e) => some (.error e)
    | some (.ok r) => some (.ok (if isTainted v then .str (ustr r) true else r))

/-- one pass of the loop over the modifiers: html_quote leaves a TaintedString alone -/
def modStepSpec (call : String → Val → Val) (f : String) (v : Val) : Val :=
  if f = "html_quote" ∧ isTainted v = true then v else call f v

/-! ### the primitives of the model -/

/-- `('%' + self.fmt) % (val,)` as `VarPipe.cfmtStage` knows it (`%d` of an integer; `%d` of a TaintedString is outside
the model) -/
def modelPctC (cfmt : Text) (v : Val) : Option (R Val) :=
  if cfmt = ['d'] then
    match v with
    | .int i => some (.ok (.str (intRepr i) false))
    | .str _ true => none
    | _ => some (.error .typeError)
  else none

/-- `_get(val, fmt)()` -/
def modelCallMethod (x : Ext) (v : Val) (fmt : Text) : Option (R Val) :=
  let f := String.ofList fmt
  match v with
  | .str s t =>
    some (.ok (.str (if f = "upper" then x.upper s else if f = "lower" then x.lower s else x.capitalize s) t))
  | .obj _ _ ms => some (.ok (.str ((ms.lookup f).getD []) false))
  | _ => none

/-- `special_formats[fmt](val, name, md)`: the functions themselves (html-quote quotes whatever it is given) -/
def modelSpecial (x : Ext) (fmt : Text) (v : Val) : Option (R Val) :=
  let f := String.ofList fmt
  let tainted := isTainted v
  if f = "html-quote" then some (.ok (.str (escape (ustr v)) false))
  else if f = "sql-quote" then
    match v with
    | .str s t => some (.ok (retaint (sqlQuote s) t))
    | _ => some (.error .attributeError)
  else if f = "url-quote" then some (.ok (.str (x.urlQuote (ustr v)) false))
  else if f = "url-quote-plus" then some (.ok (.str (x.urlQuotePlus (ustr v)) false))
  else if f = "url-unquote" then some (.ok (retaint (x.urlUnquote (ustr v)) tainted))
  else if f = "url-unquote-plus" then some (.ok (retaint (x.urlUnquotePlus (ustr v)) tainted))
  else if f = "multi-line" then
    some (.ok (.str (newlineToBr (if tainted then escape (ustr v) else ustr v)) false))
  else if f = "comma-numeric" then some (.ok (retaint (thousandsCommas (ustr v)) tainted))
  else if f = "whole-dollars" then some (.ok (.str (wholeDollars v) false))
  else if f = "dollars-and-cents" then some (.ok (.str (dollarsAndCents v) false))
  else if f = "dollars-with-commas" then some (.ok (.str (thousandsCommas (wholeDollars v)) false))
  else if f = "dollars-and-cents-with-commas" then
    some (.ok (.str (thousandsCommas (dollarsAndCents v)) false))
  else if f = "collection-length" then
    match v with
    | .str s _ => some (.ok (.str (intRepr s.length) false))
    | _ => some (.error .typeError)
  else none

def modelPrims (x : Ext) : Prims where
  hasAttr v fmt := hasMethod v (String.ofList fmt)
  callMethod := modelCallMethod x
  isSpecial fmt := Gen.specialFormats.contains (String.ofList fmt)
  special := modelSpecial x
  pct fmt v := (pyFormat fmt v).map (fun r => r.map (fun s => Val.str s false))
  pctC := modelPctC

/-- `f(val)` for a modifier by name: html_quote is the function itself (it quotes whatever it is given - that a
TaintedString never reaches it is the guard of the loop), the others as `VarPipe.applyMod` has them -/
def modelCall (x : Ext) (m : String) (v : Val) : Val :=
  if m = "html_quote" then .str (escape (ustr v)) false
  else valOf (applyMod x m (pairOf v).1 (pairOf v).2)

theorem bindM_pure (m : Option (R Val)) : bindM m (fun v => pureM v) = m := by
  unfold bindM pureM
  split <;> rfl

theorem isTainted_eq (v : Val) : (match v with | .str _ t => t | _ => false) = isTainted v := by
  cases v <;> rfl

end DTML.Lemmas.Taint
