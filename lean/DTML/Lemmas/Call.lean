/-
Lemmas for the obligations "the template call of the model is String.__call__ of the source" (Props/C02, Props/C08):
`GenCall.callGen` is regenerated from `String.__call__` on every run (harness/trans_call.py); here it is proved equal to
`Render.topCall` (a new namespace: the order of `callStack`) and `Render.callSub` (the caller's namespace).
-/
import DTML.GenCall
import DTML.Lemmas.Interp
namespace DTML.Lemmas.Call
open DTML.Render DTML.GenCall

theorem foldl_push (clients : List Val) : ∀ (cs : CallSt),
    (clients.foldl (fun c ob => (c.push (Frame.inst ob [])).count) cs) =
      ⟨(clients.map (fun v => Frame.inst v [])).reverse ++ cs.stack, cs.level, cs.pushed + clients.length⟩ := by
  induction clients with
  | nil => intro cs; simp
  | cons x xs ih =>
    intro cs
    rw [List.foldl_cons, ih]
    simp only [CallSt.push, CallSt.count, List.map_cons, List.reverse_cons, List.append_assoc, List.singleton_append,
      List.length_cons, CallSt.mk.injEq, true_and]
    omega

/-- a data source is pushed, and counted, only when it is not empty -/
theorem pushIf_eq (kvs : List (Text × Val)) (cs : CallSt) :
    (if !kvs.isEmpty then (cs.push (Frame.dict kvs)).count else cs) =
      let fs := if kvs.isEmpty then [] else [Frame.dict kvs]
      ⟨fs ++ cs.stack, cs.level, cs.pushed + fs.length⟩ := by
  cases kvs.isEmpty <;> rfl

/-- what is on the namespace when the blocks are rendered: above the frames present before, the clients (first … last),
the template's variables, the keyword arguments - each only when non-empty -, at level + 1, every one of them counted -/
theorem pushesGen_eq (t : Template) (clients : List Val) (kw : List (Text × Val)) (level : Nat) (cs : CallSt) :
    pushesGen t clients kw level cs =
      let fs := (if kw.isEmpty then [] else [Frame.dict kw]) ++ (if t.vars.isEmpty then [] else [Frame.dict t.vars]) ++
        (clients.map (fun v => Frame.inst v [])).reverse
      ⟨fs ++ cs.stack, level + 1, cs.pushed + fs.length⟩ := by
  unfold pushesGen
  simp only [foldl_push, pushIf_eq, List.append_assoc, List.length_append, List.length_reverse, List.length_map,
    CallSt.mk.injEq, true_and]
  omega

theorem onCaller_eq (t : Template) (stk : List Frame) (lvl : Nat) :
    onCallerNamespace t ⟨stk, lvl, 0⟩ =
      ⟨(if t.globals.isEmpty then [] else [Frame.dict t.globals]) ++ stk, lvl,
       (if t.globals.isEmpty then ([] : List Frame) else [Frame.dict t.globals]).length⟩ := by
  simp only [onCallerNamespace, pushIf_eq, Nat.zero_add]

theorem onNew_eq (t : Template) (m : List (Text × Val)) :
    onNewNamespace t m ⟨[], 0, 0⟩ =
      ⟨(if m.isEmpty then [] else [Frame.dict m]) ++ (if t.globals.isEmpty then [] else [Frame.dict t.globals]), 0, 0⟩ := by
  unfold onNewNamespace
  cases hg : t.globals.isEmpty <;> cases hm : m.isEmpty <;> simp [CallSt.push]

/-- below the recursion limit: the pushes, the blocks rendered, the pops; the outcome is made into a result as in the model -/
theorem callBodyGen_eq (env : Env) (fuel : Nat) (t : Template) (clients : List Val) (kw : List (Text × Val))
    (cs : CallSt) (st : St) (hl : ¬ cs.level > 200) :
    callBodyGen env fuel t clients kw cs st =
      let cs' := pushesGen t clients kw cs.level cs
      callResult env (withSt (renderBlocks env fuel t.blocks { st with stack := cs'.stack, level := cs'.level })
        fun s => { s with stack := s.stack.drop cs'.pushed, level := cs.level }) := by
  unfold callBodyGen
  dsimp only
  rw [if_neg hl]
  outcome renderBlocks env fuel t.blocks _ <;> rfl

/-- a template invoked on the caller's namespace (`<dtml-var sub>`, `sub(None, _)`) -/
theorem call_on_caller_namespace (env : Env) (fuel id : Nat) (t : Template) (st : St)
    (ht : env.templates[id]? = some t) :
    callGen env fuel t [] .namespace [] st = callSub env (fuel + 1) id st := by
  rw [callSub_succ, ht, callGen, onCaller_eq]
  by_cases hl : st.level > 200
  · -- what was pushed is popped before the error is raised
    rw [callBodyGen]
    dsimp only
    rw [if_pos hl, if_pos hl, List.drop_left]
  · rw [callBodyGen_eq env fuel t [] [] _ st hl, pushesGen_eq]
    dsimp only
    rw [if_neg hl]
    simp [subFrames, Nat.add_comm]

/-- a top-level call: the namespace built is `callStack` (so `lookup_precedence` speaks about the order of the source),
the blocks are rendered in it at level 1, a dtml-return value is the result -/
theorem call_on_new_namespace (env : Env) (fuel : Nat) (t : Template) (clients : List Val) (m kw : List (Text × Val)) :
    (callGen env fuel t clients (.dict m) kw {}).1 = (topCall env fuel t ⟨clients, m, kw⟩).1 ∧
    (callGen env fuel t clients (.dict m) kw {}).2.trace = (topCall env fuel t ⟨clients, m, kw⟩).2.trace := by
  rw [topCall_eq, callGen, onNew_eq, callBodyGen_eq env fuel t clients kw _ {} (Nat.not_lt_zero _), pushesGen_eq]
  simp only [callResult_withSt, callStack, List.reverse_append, apply_ite List.reverse, List.reverse_nil,
    List.reverse_singleton, List.append_assoc]
  exact ⟨rfl, rfl⟩

end DTML.Lemmas.Call
