/-
What `escape` and `unescape5` of DTML/Quote.lean do character by character.  `Render.escChar` of the interpreter model is
a second definition with the same body; `Lemmas.IBlock.esc_id_of_plain` uses `escape_of_plain` for it, and that goes
through because the two unfold to the same term.
-/
import DTML.Quote
namespace DTML.Quote

theorem isSpecial_iff {c : Char} : isSpecial c = true ↔ c = '&' ∨ c = '<' ∨ c = '>' ∨ c = '"' ∨ c = '\'' := by
  simp only [isSpecial, Bool.or_eq_true, decide_eq_true_eq, or_assoc]

theorem not_isSpecial_iff {c : Char} :
    isSpecial c = false ↔ c ≠ '&' ∧ c ≠ '<' ∧ c ≠ '>' ∧ c ≠ '"' ∧ c ≠ '\'' := by
  simp only [← Bool.not_eq_true, isSpecial_iff, not_or, ne_eq]

theorem escChar_id (c : Char) (h : isSpecial c = false) : escChar c = [c] := by
  obtain ⟨h1, h2, h3, h4, h5⟩ := not_isSpecial_iff.mp h
  simp [escChar, h1, h2, h3, h4, h5]

theorem escape_cons (c : Char) (t : Text) : escape (c :: t) = escChar c ++ escape t := by
  simp [escape]

theorem escape_of_plain (s : Text) (h : ∀ c ∈ s, isSpecial c = false) : escape s = s := by
  induction s with
  | nil => rfl
  | cons c t ih =>
    rw [escape_cons, escChar_id c (h c List.mem_cons_self), ih fun d hd => h d (List.mem_cons_of_mem _ hd)]
    rfl

theorem unescape5_cons_ne (c : Char) (t : Text) (h : c ≠ '&') : unescape5 (c :: t) = c :: unescape5 t := by
  simp [unescape5, h]

end DTML.Quote
