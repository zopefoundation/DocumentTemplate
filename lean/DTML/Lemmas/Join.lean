/-
For the obligations `gen_join_unicode_is_model` / `gen_render_blocks_is_model` of Props/C19: the hypotheses they are
stated with (`encodingIs`, `resolved`, `decodeOne`, `BodySpec`), lemmas about the run-time library of DTML/GenJoin.lean (the
fixed part of the generated file: `pyJoin`, `forRange`, `allText`, `joinTexts`, …), and what the model's `decodeAll` makes of
a list of pieces (`decodeAll_eq`, `decodeAll_append`; Props/C01 uses the latter).
Nothing here mentions the generated definitions, so a change of the source breaks the obligations, not this file.
-/
import DTML.GenJoin
namespace DTML.Lemmas.Join
open DTML.Render DTML.GenJoin

/-- the `encoding` argument of `render_blocks` / `join_unicode` stands for the template encoding of the model:
`None` is Latin-1 (the model's `utf8 = false`), a name is looked up as Python's codec registry does -/
def encodingIs (env : Env) (encoding : Option Text) : Prop :=
  match encoding with
  | none => env.utf8 = false
  | some e => codec e = some env.utf8

instance (env : Env) (encoding : Option Text) : Decidable (encodingIs env encoding) := by
  unfold encodingIs; cases encoding <;> exact inferInstance

/-- an encoding name that is there (after `if encoding is None: encoding = …`) and means the template encoding -/
def resolved (env : Env) (encoding : Option Text) : Prop := ∃ e, encoding = some e ∧ codec e = some env.utf8

theorem decodeBytes_utf8 (env : Env) (b : List Nat) : decodeBytes { utf8 := env.utf8 } b = decodeBytes env b := by
  unfold decodeBytes; rfl

/-- the texts of the pieces, bytes decoded with the template encoding -/
def decodedTexts (env : Env) : List Piece → Option (List Text)
  | [] => some []
  | .text s :: t => (decodedTexts env t).map (s :: ·)
  | .bytes b :: t =>
    match decodeBytes env b, decodedTexts env t with
    | some s, some r => some (s :: r)
    | _, _ => none

theorem decodeAll_eq (env : Env) (ps : List Piece) : decodeAll env ps = (decodedTexts env ps).map List.flatten := by
  induction ps with
  | nil => rfl
  | cons p t ih =>
    cases p with
    | text s =>
      simp only [decodeAll, decodedTexts, ih]
      cases decodedTexts env t <;> simp
    | bytes b =>
      simp only [decodeAll, decodedTexts, ih]
      cases decodeBytes env b <;> cases decodedTexts env t <;> simp

theorem decodeAll_append (env : Env) (ps qs : List Piece) :
    decodeAll env (ps ++ qs) = (decodeAll env ps).bind fun s => (decodeAll env qs).map fun t => s ++ t := by
  induction ps with
  | nil => simp [decodeAll]
  | cons p t ih =>
    cases p with
    | text s =>
      simp only [List.cons_append, decodeAll, ih]
      cases decodeAll env t <;> cases decodeAll env qs <;> simp
    | bytes b =>
      simp only [List.cons_append, decodeAll, ih]
      cases decodeBytes env b <;> cases decodeAll env t <;> cases decodeAll env qs <;> simp

theorem joinTexts_nil (ts : List Text) : joinTexts [] ts = ts.flatten := by
  fun_induction joinTexts [] ts with
  | case1 => rfl
  | case2 a => simp
  | case3 a b t ih => rw [ih]; simp

theorem allText_texts (ts : List Text) : allText (ts.map Piece.text) = some ts := by
  induction ts with
  | nil => rfl
  | cons a t ih => simp [allText, ih]

/-- a list `''.join` accepts holds text only: nothing is decoded -/
theorem allText_decoded (env : Env) (ps : List Piece) (ts : List Text) (h : allText ps = some ts) :
    decodedTexts env ps = some ts := by
  induction ps generalizing ts with
  | nil => exact h
  | cons p t ih =>
    cases p with
    | bytes b => cases h
    | text s =>
      simp only [allText, Option.map_eq_some_iff] at h
      obtain ⟨r, hr, rfl⟩ := h
      simp only [decodedTexts, ih r hr, Option.map_some]

/-- `x.decode(encoding)` under `isinstance(x, bytes)`, or `x` as it is -/
def decodeOne (env : Env) (x : Piece) : Res Piece :=
  match x with
  | .text s => .ok (.text s)
  | .bytes b =>
    match decodeBytes env b with
    | some s => .ok (.text s)
    | none => .raise ⟨"UnicodeDecodeError".toList, []⟩

/-- what one round of the fix-up loop has to do with the element at the index -/
def BodySpec (env : Env) (body : List Piece → Nat → Res (List Piece)) : Prop :=
  ∀ (pre : List Piece) (x : Piece) (suf : List Piece),
    body (pre ++ x :: suf) pre.length = bindR (decodeOne env x) fun y => .ok (pre ++ y :: suf)

theorem forRange_spec (env : Env) (body : List Piece → Nat → Res (List Piece)) (hb : BodySpec env body) :
    ∀ (suf pre : List Piece),
      forRange body (List.range' pre.length suf.length) (pre ++ suf) =
        match decodedTexts env suf with
        | some ts => .ok (pre ++ ts.map Piece.text)
        | none => .raise ⟨"UnicodeDecodeError".toList, []⟩ := by
  intro suf
  induction suf with
  | nil => intro pre; simp [forRange, decodedTexts]
  | cons x suf ih =>
    intro pre
    -- once the element is the text `s`, the rest of the loop is the induction hypothesis at `pre ++ [s]`
    have rest : ∀ s, forRange body (List.range' (pre.length + 1) suf.length) (pre ++ .text s :: suf) =
        match decodedTexts env suf with
        | some ts => .ok (pre ++ .text s :: ts.map Piece.text)
        | none => .raise ⟨"UnicodeDecodeError".toList, []⟩ := by
      intro s
      have := ih (pre ++ [.text s])
      simp only [List.length_append, List.length_singleton, List.append_assoc, List.singleton_append] at this
      exact this
    simp only [List.length_cons, List.range'_succ, forRange, hb pre x suf]
    cases x with
    | text s =>
      simp only [decodeOne, bindR, decodedTexts, rest]
      cases decodedTexts env suf <;> rfl
    | bytes b =>
      cases hd : decodeBytes env b with
      | none => simp only [decodeOne, hd, bindR, decodedTexts]
      | some s =>
        simp only [decodeOne, hd, bindR, decodedTexts, rest]
        cases decodedTexts env suf <;> rfl

/-- the whole fix-up loop followed by the second `''.join`: `joinUnicode` of the model -/
theorem fixup_then_join (env : Env) (body : List Piece → Nat → Res (List Piece)) (hb : BodySpec env body)
    (ps : List Piece) :
    (bindR (forRange body (List.range ps.length) ps) fun r => pyJoin [] r) = joinUnicode env ps := by
  have h := forRange_spec env body hb ps []
  simp only [List.length_nil, List.nil_append] at h
  rw [List.range_eq_range', h]
  unfold joinUnicode
  rw [decodeAll_eq]
  cases decodedTexts env ps with
  | none => rfl
  | some ts => simp only [bindR, pyJoin, allText_texts, joinTexts_nil, Option.map_some]

/-- the first `''.join` when it succeeds: the same text as the model's -/
theorem join_texts_is_model (env : Env) (ps : List Piece) (ts : List Text) (h : allText ps = some ts) :
    joinUnicode env ps = .ok (.text (joinTexts [] ts)) := by
  unfold joinUnicode
  rw [decodeAll_eq, allText_decoded env ps ts h, joinTexts_nil]
  rfl

/-- joining never ends in `ret` or `oom`: `joinRes` hands the outcome of `joinPieces` on as it is -/
theorem joinRes_ok (env : Env) (ps : List Piece) (st : St) : joinRes env (.ok ps) st = (joinPieces env ps, st) := by
  match ps with
  | [] => rfl
  | [p] => rfl
  | a :: b :: t =>
    simp only [joinRes, joinPieces, joinUnicode]
    cases decodeAll env (a :: b :: t) <;> rfl

end DTML.Lemmas.Join
