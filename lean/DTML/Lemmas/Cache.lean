/-
The attribute caches of InstanceDicts are consistent: every cached entry repeats the object's own
(public) attribute.  This is an invariant of every function of the interpreter (an instance of `Closed.inv`,
Lemmas/Invariant.lean); Props/C02 uses it to answer lookups on a consistent namespace like lookups on fresh caches.
-/
import DTML.Lemmas.Invariant
namespace DTML.Lemmas.Cache
open DTML.Render

/-- a frame whose cache only repeats attributes of its object -/
def ConsF : Frame → Prop
  | .inst (.obj _ attrs) cache => ∀ k v, cache.lookup k = some v → attrs.lookup k = some v ∧ k.head? ≠ some '_'
  | .inst _ cache => cache = []
  | _ => True

def Cons (st : St) : Prop := ∀ f ∈ st.stack, ConsF f

theorem consF_fresh (v : Val) : ConsF (.inst v []) := by
  cases v <;> simp [ConsF, List.lookup]

theorem cons_push (st : St) (f : Frame) (h : Cons st) (hf : ConsF f) : Cons { st with stack := f :: st.stack } := by
  intro g hg
  rcases List.mem_cons.mp hg with rfl | hg
  · exact hf
  · exact h g hg

theorem cons_drop (st : St) (n : Nat) (h : Cons st) : Cons { st with stack := st.stack.drop n } :=
  fun g hg => h g (List.mem_of_mem_drop hg)

theorem cons_trace (st : St) (tr : List Event) (h : Cons st) : Cons { st with trace := tr } := h

/-- one frame lookup keeps the frame consistent -/
theorem frameGet_cons (env : Env) (f : Frame) (key : Text) (tr : List Event) (v : Val) (f' : Frame) (tr' : List Event)
    (hf : ConsF f) (h : frameGet env f key tr = (.val v f', tr')) : ConsF f' := by
  rcases frameGet_val h with rfl | ⟨id, attrs, cache, rfl, rfl, ha, hu⟩
  · exact hf
  · intro k v' hk
    rw [List.lookup_append, Option.or_eq_some_iff] at hk
    rcases hk with h1 | ⟨_, h2⟩
    · exact hf k v' h1
    · rw [List.lookup_cons] at h2
      split at h2
      next hkey =>
        cases h2
        cases beq_iff_eq.mp hkey
        exact ⟨ha, hu⟩
      next => cases h2

/-- consistency is kept at every depth: if the frames from depth `k` down were consistent before, they are after.
(Stated for every depth, so that it survives pushing frames and popping them again, whatever was pushed.) -/
def Keeps (a b : St) : Prop := ∀ k, (∀ f ∈ a.stack.drop k, ConsF f) → ∀ g ∈ b.stack.drop k, ConsF g

theorem lookupStack_keeps (env : Env) : ∀ (stack : List Frame) (key : Text) (tr : List Event) (v : Val)
    (stack' : List Frame) (tr' : List Event), lookupStack env stack key tr = (.val v stack', tr') →
    ∀ k, (∀ f ∈ stack.drop k, ConsF f) → ∀ g ∈ stack'.drop k, ConsF g := by
  intro stack key tr v stack' tr' h k hc g hg
  obtain ⟨pre, f, f', post, t, rfl, rfl, hf⟩ := lookupStack_val h
  by_cases hk : k ≤ pre.length
  · rw [List.drop_append_of_le_length hk] at hc hg
    rcases List.mem_append.mp hg with hg | hg
    · exact hc g (List.mem_append_left _ hg)
    · rcases List.mem_cons.mp hg with rfl | hg
      · exact frameGet_cons env f key t v _ tr' (hc f (List.mem_append_right _ (List.mem_cons_self ..))) hf
      · exact hc g (List.mem_append_right _ (List.mem_cons_of_mem _ hg))
  · -- below the frame that answered nothing has changed
    obtain ⟨j, rfl⟩ : ∃ j, k = pre.length + (j + 1) := ⟨k - pre.length - 1, by omega⟩
    simp only [List.drop_append, Nat.add_sub_cancel_left, List.drop_succ_cons] at hc hg
    exact hc g hg

/-- rewriting the frame on top by a dictionary or by sequence variables, which are consistent whatever they hold -/
theorem keeps_top (a : St) (g : Frame) (fs : List Frame) (hg : ConsF g) (f : Frame) (hs : a.stack = f :: fs) :
    Keeps a { a with stack := g :: fs } := by
  intro k hc
  cases k with
  | succ k => simpa [hs] using hc
  | zero =>
    intro x hx
    rcases List.mem_cons.mp hx with rfl | hx
    · exact hg
    · exact hc x (by simp [hs, hx])

theorem keeps_pop {a b : St} (fs : List Frame) (h : Keeps { a with stack := fs ++ a.stack } b) :
    Keeps a { b with stack := b.stack.drop fs.length } := by
  intro k hc g hg
  rw [List.drop_drop] at hg
  refine h (fs.length + k) ?_ g hg
  rwa [List.drop_length_add_append]

/-- `Keeps` is respected by everything the interpreter does to the state -/
theorem closed (env : Env) : Closed env Keeps Keeps where
  same := fun hs _ k hc => by rw [hs]; exact hc
  trans := fun h1 h2 k hc => h2 k (h1 k hc)
  lookup := fun hl => lookupStack_keeps env _ _ _ _ _ _ hl
  level := fun _ h => h
  toTop := id
  transTop := fun h1 h2 k hc => h2 k (h1 k hc)
  bindTop := fun k v a => by
    unfold bindTop
    split
    next hs => exact keeps_top a _ _ trivial _ hs
    next => exact fun _ hc => hc
  setSeq := fun sv a => by
    unfold setSeq
    split
    next hs => exact keeps_top a _ _ trivial _ hs
    next => exact fun _ hc => hc
  popTop := fun f fs h => keeps_pop (f :: fs) h

theorem Keeps.cons {a b : St} (h : Keeps a b) (hc : Cons a) : Cons b := h 0 hc

structure IH (env : Env) (fuel : Nat) : Prop where
  getitem : ∀ key call st, Cons st → Cons (getitem env fuel key call st).2
  callSub : ∀ id st, Cons st → Cons (callSub env fuel id st).2
  evalExpr : ∀ e st, Cons st → Cons (evalExpr env fuel e st).2
  evalSrc : ∀ s st, Cons st → Cons (evalSrc env fuel s st).2
  fetchVar : ∀ s hq null st, Cons st → Cons (fetchVar env fuel s hq null st).2
  renderBlocks : ∀ bs st, Cons st → Cons (renderBlocks env fuel bs st).2
  withFrame : ∀ f body st, ConsF f → Cons st → Cons (withFrame env fuel f body st).2
  renderJoined : ∀ body st, Cons st → Cons (renderJoined env fuel body st).2
  framed : ∀ f body st, ConsF f → Cons st → Cons (framed env fuel f body st).2
  inIter : ∀ sv o body i st, Cons st → Cons (inIter env fuel sv o body i st).2
  raiseClass : ∀ cls e st, Cons st → Cons (raiseClass env fuel cls e st).2
  renderBlk : ∀ b st, Cons st → Cons (renderBlk env fuel b st).2
  condLoop : ∀ cs els st, Cons st → Cons (condLoop env fuel cs els st).2
  inLoop : ∀ sv o body i st, Cons st → Cons (inLoop env fuel sv o body i st).2
  inLoopB : ∀ sv o w body i st, Cons st → Cons (inLoopB env fuel sv o w body i st).2
  inBatch : ∀ sv o bp w body els cache st, (∀ f ∈ cache, ConsF f) → Cons st → Cons (inBatch env fuel sv o bp w body els cache st).2
  resolveNames : ∀ names bp bad st, Cons st → Cons (resolveNames env fuel names bp bad st).2
  evalSortKey : ∀ x st, Cons st → Cons (evalSortKey env fuel x st).2
  evalReverse : ∀ x st, Cons st → Cons (evalReverse env fuel x st).2
  letLoop : ∀ binds body st, Cons st → Cons (letLoop env fuel binds body st).2

/-- every interpreter function, at every fuel, keeps the attribute caches consistent -/
theorem all_cons (env : Env) : ∀ fuel, IH env fuel := by
  intro fuel
  have h := (closed env).inv fuel
  exact {
    getitem := fun key call st => (h.getitem key call st).2.cons
    callSub := fun id st => (h.callSub id st).2.cons
    evalExpr := fun e st => (h.evalExpr e st).2.cons
    evalSrc := fun s st => (h.evalSrc s st).2.cons
    fetchVar := fun s hq null st => (h.fetchVar s hq null st).2.cons
    renderBlocks := fun bs st => (h.renderBlocks bs st).2.cons
    withFrame := fun f body st _ => (h.withFrame f body st).2.cons
    renderJoined := fun body st => (h.renderJoined body st).2.cons
    framed := fun f body st _ => (h.framed f body st).2.cons
    inIter := fun sv o body i st => (h.inIter sv o body i st).2.cons
    raiseClass := fun cls e st => (h.raiseClass cls e st).2.cons
    renderBlk := fun b st => (h.renderBlk b st).2.cons
    condLoop := fun cs els st => (h.condLoop cs els st).2.cons
    inLoop := fun sv o body i st => (h.inLoop sv o body i st).2.cons
    inLoopB := fun sv o w body i st => (h.inLoopB sv o w body i st).2.cons
    inBatch := fun sv o bp w body els cache st _ => (h.inBatch sv o bp w body els cache st).2.cons
    resolveNames := fun names bp bad st => (h.resolveNames names bp bad st).2.cons
    evalSortKey := fun x st => (h.evalSortKey x st).2.cons
    evalReverse := fun x st => (h.evalReverse x st).2.cons
    letLoop := fun binds body st => (h.letLoop binds body st).2.cons }

set_option linter.unusedVariables false in
theorem inLoop_step (env : Env) (fuel : Nat) (ih : IH env fuel) (sv : SeqVars) (o : InOpts) (body : List Blk) (i : Nat)
    (st : St) (h : Cons st) : Cons (inLoop env (fuel + 1) sv o body i st).2 :=
  (all_cons env (fuel + 1)).inLoop sv o body i st h

set_option linter.unusedVariables false in
theorem inLoopB_step (env : Env) (fuel : Nat) (ih : IH env fuel) (sv : SeqVars) (o : InOpts) (w : BWin) (body : List Blk)
    (i : Nat) (st : St) (h : Cons st) : Cons (inLoopB env (fuel + 1) sv o w body i st).2 :=
  (all_cons env (fuel + 1)).inLoopB sv o w body i st h

set_option linter.unusedVariables false in
theorem inBatch_step (env : Env) (fuel : Nat) (ih : IH env fuel) (sv0 : SeqVars) (o : InOpts) (bp : BatchP) (w : BWin)
    (body : List Blk) (els : Option (List Blk)) (cache : List Frame) (st : St) (hc : ∀ f ∈ cache, ConsF f) (h : Cons st) :
    Cons (inBatch env (fuel + 1) sv0 o bp w body els cache st).2 :=
  (all_cons env (fuel + 1)).inBatch sv0 o bp w body els cache st hc h

theorem arrange_cons (env : Env) (o : InOpts) (x : InXOpts) (xs : List Val) (st : St) (h : Cons st) :
    Cons (arrange env o x xs st).2 :=
  ((closed env).arrange o x xs st).cons h

end DTML.Lemmas.Cache
