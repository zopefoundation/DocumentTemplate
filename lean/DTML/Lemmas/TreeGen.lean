/-
For `C20.gen_apply_diff_is_model`: the translation of TreeTag.apply_diff (GenTreeState.lean, regenerated from the source
on every run) against the hand-written model `TreeState.applyDiff`; likewise `tpStateLevel` and `tpValuesIds` as
translated against `depthList` / `allIdsList` (`stateLevelGen_eq`, `valuesIdsGen_eq`, for
`C20.gen_state_level_is_model` / `gen_values_ids_is_model`).  What is used of the model itself is in Lemmas/TreeState.
-/
import DTML.GenTreeState
import DTML.Lemmas.TreeState
namespace DTML.Lemmas.TreeGen
open DTML.TreeState DTML.GenTreeState DTML.Lemmas.TreeState

theorem pyIdx_nat (n j : Nat) (h : j < n) : pyIdx n (j : Int) = some j := by
  unfold pyIdx
  have h1 : ¬ ((j : Int) < 0) := by omega
  have h2 : (j : Int) < (n : Int) := by omega
  simp only [h1, h2, if_false, if_true, Int.toNat_natCast]

theorem pyIdx_last (n : Nat) : pyIdx (n + 1) (-1) = some n := by
  unfold pyIdx
  have h1 : ((-1 : Int) < 0) := by omega
  have h2 : ¬ ((-1 : Int) + ((n + 1 : Nat) : Int) < 0) := by omega
  have h3 : ((-1 : Int) + ((n + 1 : Nat) : Int)).toNat = n := by omega
  simp only [h1, h2, h3, if_false, if_true]

/-- the search loop against `findId`: where nothing is found `loc` keeps its initial value; else the loop stops at the
position of the entry found, which is where the model's `eraseId` / `modifyId` act -/
theorem searchGen_spec (id : Nat) : ∀ (kids : List St) (i : Nat) (loc : Int),
    match findId kids id with
    | none => searchGen id kids i loc = loc
    | some n => ∃ j : Nat, searchGen id kids i loc = ((i + j : Nat) : Int) ∧ j < kids.length ∧ kids[j]? = some n ∧
        n.id = id ∧ eraseId kids id = kids.eraseIdx j ∧ ∀ f, modifyId kids id f = kids.set j (f n) := by
  intro kids
  induction kids with
  | nil => intro i loc; rfl
  | cons k ks ih =>
    intro i loc
    rw [findId_cons, searchGen, eraseId]
    by_cases hk : (k.id == id) = true
    · rw [if_pos hk, if_pos hk, if_pos hk]
      exact ⟨0, rfl, by simp, rfl, by simpa using hk, rfl, fun f => by simp [modifyId, hk]⟩
    · rw [if_neg hk, if_neg hk, if_neg hk]
      have := ih (i + 1) loc
      split at this
      · exact this
      · obtain ⟨j, h1, h2, h3, h4, h5, h6⟩ := this
        refine ⟨j + 1, ?_, Nat.succ_lt_succ h2, by simpa using h3, h4, ?_, fun f => ?_⟩
        · rw [h1]; omega
        · rw [h5]; rfl
        · simp [modifyId, hk, h6]

/-- `s.append([id, []]); s = s[-1][1]; <rest>` -/
theorem descend_appended (s : List St) (id : Nat) (f : List St → Option (List St)) :
    descendAt (s ++ [St.node id []]) (-1) f = (f []).map (fun r => s ++ [St.node id r]) := by
  unfold descendAt
  have hl : (s ++ [St.node id []]).length = s.length + 1 := by simp
  rw [hl, pyIdx_last]
  simp [St.kids, St.id]

/-- when neither ids are left nor the click expands: `not (diff or expand)`, `not diff and not expand` of the source -/
theorem nil_of_not_more {rest : Path} {e : Bool} (h : (!rest.isEmpty || e) = false) : rest = [] ∧ e = false := by
  cases rest <;> cases e <;> simp_all

theorem chainGen_eq (e : Bool) : ∀ (rest : Path) (s : List St), chainGen e s rest = some (s ++ chainRest rest e) := by
  intro rest
  induction rest with
  | nil => intro s; simp [chainGen, chainRest]
  | cons r rs ih =>
    intro s
    cases ht : (!rs.isEmpty || e) with
    | true =>
      simp only [chainGen, chainRest, ht, if_true]
      rw [descend_appended, ih]
      simp
    | false =>
      obtain ⟨rfl, rfl⟩ := nil_of_not_more ht
      simp [chainGen, chainRest]

theorem loopGen_eq (e : Bool) : ∀ (p : Path) (s : List St), loopGen e s p = some (applyDiff s p e) := by
  intro p
  induction p with
  | nil => intro s; simp [loopGen, applyDiff]
  | cons id rest ih =>
    intro s
    have hs := searchGen_spec id s 0 (-1)
    cases hf : findId s id with
    | none =>
      -- not found: `loc` stays -1, and what follows is the inner loop
      rw [hf] at hs
      simp only [loopGen, applyDiff, hf, hs, show decide ((-1 : Int) ≥ 0) = false from rfl]
      cases ht : (!rest.isEmpty || e) with
      | true =>
        rw [descend_appended, chainGen_eq]
        simp
      | false =>
        obtain ⟨rfl, rfl⟩ := nil_of_not_more ht
        simp [offEntry]
    | some n =>
      rw [hf] at hs
      obtain ⟨j, h1, h2, h3, h4, h5, h6⟩ := hs
      simp only [loopGen, applyDiff, hf, h1, Nat.zero_add, Bool.not_not, ends_eq_not_more rest e,
        show decide (((j : Nat) : Int) ≥ 0) = true by simp, if_true]
      cases ht : (!rest.isEmpty || e) with
      | false =>
        -- the click ends here and collapses: `del s[loc]`
        obtain ⟨rfl, rfl⟩ := nil_of_not_more ht
        simp [delAt, pyIdx_nat _ _ h2, offEntry, h5]
      | true =>
        -- the cursor steps into the entry
        simp only [Bool.not_true, Bool.false_eq_true, if_false, descendAt, pyIdx_nat _ _ h2, h3, ih, Option.map_some,
          h6, h4]

/-! ### tpStateLevel -/
mutual
theorem gen_entry_level (two : St → Bool) (h : ∀ s : St, s.kids ≠ [] → two s = true) :
    ∀ (s : St) (level : Nat), entryLevelGen two s level = max level (depthSt s)
  | .node sid kids, level => by
    simp only [entryLevelGen, depthSt]
    cases ht : two (St.node sid kids) with
    | true =>
      rw [stateLevelGen_eq two h kids 0]
      simp
    | false =>
      by_cases hk : kids = []
      · subst hk; simp [depthList]
      · have := h (St.node sid kids) (by simpa [St.kids] using hk)
        rw [this] at ht
        cases ht
theorem stateLevelGen_eq (two : St → Bool) (h : ∀ s : St, s.kids ≠ [] → two s = true) :
    ∀ (st : List St) (level : Nat), stateLevelGen two st level = max level (depthList st)
  | [], level => by simp [stateLevelGen, depthList]
  | s :: ss, level => by
    simp only [stateLevelGen, depthList]
    rw [gen_entry_level two h s level, stateLevelGen_eq two h ss _]
    omega
end

/-! ### tpValuesIds -/
mutual
theorem valuesIdsGen_eq : ∀ t : T, valuesIdsGen t = allIdsList t.kids
  | .node id items => by
    simp only [valuesIdsGen, T.kids]
    rw [gen_values_ids_loop items []]
    simp
theorem gen_values_ids_loop : ∀ (items : List T) (r : List St), valuesIdsLoopGen items r = r ++ allIdsList items
  | [], r => by simp [valuesIdsLoopGen, allIdsList]
  | .node id kids :: items, r => by
    simp only [valuesIdsLoopGen, allIdsList, allIds, T.kids, T.id]
    by_cases hk : kids.isEmpty = true
    · simp only [hk, Bool.not_true, Bool.false_eq_true, if_false, if_true]
      rw [gen_values_ids_loop items r]
      simp
    · have hk' : kids.isEmpty = false := by simpa using hk
      simp only [hk', Bool.not_false, if_true, Bool.false_eq_true, if_false]
      have e2 : valuesIdsGen (.node id kids) = allIdsList kids := valuesIdsGen_eq (.node id kids)
      rw [gen_values_ids_loop items _, e2]
      simp
end

end DTML.Lemmas.TreeGen
