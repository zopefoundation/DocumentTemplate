/-
Lemmas about the definitions of DTML/Scan.lean, next to which they belong: the character classes, `strip()`, `str.find`,
the name at the start of a tag body, and the closing `>` of a tag.  For the last, `Print.qwalk` (the quote state after a
stretch of text) and `Print.gtQuoted` (no `>` of the stretch closes the tag) are defined here, in their own namespace
`DTML.Lemmas.Print`, with `findCloseAux_append`: `findCloseAux` walks over such a stretch.  `candidate` is characterised
behind each of its opening markers; behind the four angle-bracket ones it has one shape (`angle`, `angle_closed`), which
Lemmas/Print and Props/C07 use for the spellings of a tag.  Then what the two scanners have in common: `scan` tries a
matcher (`tagAt`) at every position from the left and stops at the first hit, and a hit is a non-empty prefix of the text
it was tried on.  Props/C01 (nothing is lost), Props/C06 (progress), Lemmas/Print (printed documents) and Lemmas/ScanGen
(the translated search loop) rest on the last part.
-/
import DTML.Scan
namespace DTML.Lemmas.Scanner
open DTML.Scan

theorem alpha_nat (c : Char) (h : isAsciiAlpha c = true) :
    (97 ≤ c.toNat ∧ c.toNat ≤ 122) ∨ (65 ≤ c.toNat ∧ c.toNat ≤ 90) := by
  simp only [isAsciiAlpha, Bool.or_eq_true, Bool.and_eq_true, decide_eq_true_eq, Char.le_def] at h
  rcases h with ⟨h1, h2⟩ | ⟨h1, h2⟩
  · left; exact ⟨by simpa using UInt32.le_iff_toNat_le.mp h1, by simpa using UInt32.le_iff_toNat_le.mp h2⟩
  · right; exact ⟨by simpa using UInt32.le_iff_toNat_le.mp h1, by simpa using UInt32.le_iff_toNat_le.mp h2⟩

theorem alpha_not_ctl (c : Char) (h : isAsciiAlpha c = true) : isCtl c = false := by
  have := alpha_nat c h
  simp only [isCtl, decide_eq_false_iff_not]
  omega

theorem alpha_not_space (c : Char) (h : isAsciiAlpha c = true) : isPySpace c = false := by
  have := alpha_nat c h
  simp only [isPySpace, Bool.or_eq_false_iff, Bool.and_eq_false_iff, decide_eq_false_iff_not]
  omega

theorem alpha_ne (c x : Char) (h : isAsciiAlpha c = true) (hx : isAsciiAlpha x = false) : c ≠ x := by
  intro e
  rw [e, hx] at h
  cases h

theorem entChar_not_semicolon (c : Char) (h : isEntChar c = true) : c ≠ ';' := by
  intro hc
  rw [hc] at h
  exact absurd h (by decide)

theorem dropWhile_none (p : Char → Bool) (s : Text) (h : ∀ c ∈ s, p c = false) : s.dropWhile p = s := by
  cases s with
  | nil => rfl
  | cons c t => simp [List.dropWhile, h c (List.mem_cons_self ..)]

theorem pyStrip_no_space (s : Text) (h : ∀ c ∈ s, isPySpace c = false) : pyStrip s = s := by
  unfold pyStrip
  rw [dropWhile_none _ s h, dropWhile_none _ s.reverse (fun c hc => h c (List.mem_reverse.mp hc)), List.reverse_reverse]

theorem pyStrip_trailing_blank (s : Text) (h : ∀ c ∈ s, isPySpace c = false) : pyStrip (s ++ [' ']) = s := by
  unfold pyStrip
  cases s with
  | nil => decide
  | cons c t =>
    have hc := h c (List.mem_cons_self ..)
    simp only [List.cons_append, List.dropWhile, hc, List.reverse_cons, List.reverse_append, List.reverse_nil,
      List.nil_append, List.cons_append]
    have hsp : isPySpace ' ' = true := by decide
    simp only [hsp]
    have := dropWhile_none isPySpace (t.reverse ++ [c]) (fun d hd => by
      rcases List.mem_append.mp hd with hd | hd
      · exact h d (List.mem_cons_of_mem _ (List.mem_reverse.mp hd))
      · exact List.mem_singleton.mp hd ▸ hc)
    rw [this]
    simp

theorem pyStrip_length_le (s : Text) : (pyStrip s).length ≤ s.length := by
  unfold pyStrip
  rw [List.length_reverse]
  refine Nat.le_trans (List.dropWhile_sublist _).length_le ?_
  rw [List.length_reverse]
  exact (List.dropWhile_sublist _).length_le

theorem findSub_some_le (pat : Text) : ∀ (s : Text) (k : Nat), findSub pat s = some k → pat.length ≤ s.length := by
  intro s
  induction s with
  | nil =>
    intro k h
    simp only [findSub] at h
    split at h
    next hp => simp [List.isEmpty_iff.mp hp]
    next => cases h
  | cons c t ih =>
    intro k h
    simp only [findSub] at h
    split at h
    next hp => exact (List.isPrefixOf_iff_prefix.mp hp).length_le
    next =>
      cases hf : findSub pat t with
      | none => simp [hf] at h
      | some k' =>
        have := ih k' hf
        simp only [List.length_cons]
        omega

theorem findSub_append_of_some (pat : Text) : ∀ (a r : Text) (k : Nat), findSub pat a = some k →
    findSub pat (a ++ r) = some k := by
  intro a
  induction a with
  | nil =>
    intro r k h
    rw [findSub] at h
    split at h
    next hp =>
      cases h
      rw [List.isEmpty_iff.mp hp]
      cases r <;> rfl
    next => cases h
  | cons c t ih =>
    intro r k h
    rw [findSub] at h
    rw [List.cons_append, findSub]
    have happ : (c :: t) <+: c :: (t ++ r) := List.prefix_append (c :: t) r
    by_cases hp : pat.isPrefixOf (c :: t) = true
    · rw [if_pos hp] at h
      rw [if_pos (List.isPrefixOf_iff_prefix.mpr ((List.isPrefixOf_iff_prefix.mp hp).trans happ))]
      exact h
    · rw [if_neg hp] at h
      obtain ⟨k', hk', rfl⟩ := Option.map_eq_some_iff.mp h
      have hle := findSub_some_le pat t k' hk'
      -- an occurrence at the head of `c :: (t ++ r)` would fit into `c :: t`
      have hnp : ¬ pat.isPrefixOf (c :: (t ++ r)) = true := fun hpp => hp (List.isPrefixOf_iff_prefix.mpr
        (List.prefix_of_prefix_length_le (List.isPrefixOf_iff_prefix.mp hpp) happ (by rw [List.length_cons]; omega)))
      rw [if_neg hnp, ih r k' hk']
      rfl

theorem findSub_prefix (pat s : Text) (h : pat <+: s) : findSub pat s = some 0 := by
  cases s with
  | nil => rw [List.prefix_nil.mp h]; rfl
  | cons c t => rw [findSub, if_pos (List.isPrefixOf_iff_prefix.mpr h)]

/-- a pattern whose last character `x` occurs nowhere else in it is found right behind a text free of `x` -/
theorem findSub_last (q : Text) (x : Char) (hq : ∀ c ∈ q, c ≠ x) : ∀ (a r : Text), (∀ c ∈ a, c ≠ x) →
    findSub (q ++ [x]) (a ++ (q ++ x :: r)) = some a.length := by
  intro a
  induction a with
  | nil => intro r _; exact findSub_prefix _ _ ⟨r, by simp⟩
  | cons c t ih =>
    intro r ha
    -- an occurrence at the head would have its `x` at index `q.length`, inside `c :: t ++ q`
    have hnp : ¬ (q ++ [x]).isPrefixOf (c :: (t ++ (q ++ x :: r))) = true := by
      intro hp
      have hlt : q.length < (c :: t ++ q).length := by simp; omega
      have h1 := (List.isPrefixOf_iff_prefix.mp hp).getElem (i := q.length) (by simp)
      rw [List.getElem_append_right (Nat.le_refl _)] at h1
      simp only [Nat.sub_self, List.getElem_cons_zero] at h1
      rw [List.getElem_of_eq (show c :: (t ++ (q ++ x :: r)) = (c :: t ++ q) ++ x :: r by simp),
        List.getElem_append_left hlt] at h1
      rcases List.mem_append.mp (List.getElem_mem hlt) with hm | hm
      · exact ha _ hm h1.symm
      · exact hq _ hm h1.symm
    rw [List.cons_append, findSub, if_neg hnp, ih r fun d hd => ha d (List.mem_cons_of_mem _ hd)]
    rfl

theorem findSub_single (c : Char) (l : Text) : findSub [c] l = l.findIdx? (· = c) := by
  induction l with
  | nil => rfl
  | cons y ys ih =>
    rw [findSub, List.findIdx?_cons, ih]
    by_cases hy : y = c
    · simp [List.isPrefixOf, hy]
    · have : ¬ c = y := fun h => hy h.symm
      simp [List.isPrefixOf, hy, this]

theorem findIdx?_split {α : Type} (p : α → Bool) : ∀ (l : List α) (i : Nat), l.findIdx? p = some i →
    ∃ pre c post, l = pre ++ c :: post ∧ pre.length = i ∧ p c = true ∧ ∀ x ∈ pre, p x = false := by
  intro l
  induction l with
  | nil => intro i h; simp at h
  | cons y ys ih =>
    intro i h
    rw [List.findIdx?_cons] at h
    by_cases hy : p y = true
    · simp only [hy, if_true, Option.some.injEq] at h
      exact ⟨[], y, ys, rfl, h, hy, by simp⟩
    · simp only [hy, Bool.false_eq_true, if_false, Option.map_eq_some_iff] at h
      obtain ⟨j, hj, rfl⟩ := h
      obtain ⟨pre, c, post, h1, h2, h3, h4⟩ := ih j hj
      refine ⟨y :: pre, c, post, by rw [h1]; rfl, by rw [List.length_cons, h2], h3, ?_⟩
      intro x hx
      rcases List.mem_cons.mp hx with rfl | hx
      · simpa using hy
      · exact h4 x hx

theorem findSub_single_none (c : Char) (l : Text) (h : findSub [c] l = none) : ∀ x ∈ l, x ≠ c := by
  rw [findSub_single, List.findIdx?_eq_none_iff] at h
  exact fun x hx => by simpa using h x hx

theorem findSub_single_some (c : Char) (l : Text) (d : Nat) (h : findSub [c] l = some d) :
    ∃ pre post, l = pre ++ c :: post ∧ pre.length = d ∧ ∀ x ∈ pre, x ≠ c := by
  rw [findSub_single] at h
  obtain ⟨pre, x, post, h1, h2, h3, h4⟩ := findIdx?_split _ l d h
  have : x = c := by simpa using h3
  exact ⟨pre, post, this ▸ h1, h2, fun y hy => by simpa using h4 y hy⟩

theorem findSub_single_append (x : Char) (b r : Text) (hb : ∀ c ∈ b, c ≠ x) : findSub [x] (b ++ x :: r) = some b.length :=
  findSub_last [] x (fun _ h => nomatch h) b r hb

theorem takeWhile_append_stop (p : Char → Bool) (b : Text) (x : Char) (r : Text) (hx : p x = false) :
    (b ++ x :: r).takeWhile p = b.takeWhile p := by
  induction b with
  | nil => simp [List.takeWhile, hx]
  | cons c t ih =>
    simp only [List.cons_append, List.takeWhile]
    cases p c <;> simp [ih]

theorem takeWhile_all_append (p : Char → Bool) (a b : Text) (ha : ∀ c ∈ a, p c = true)
    (hb : ∀ c, b.head? = some c → p c = false) : (a ++ b).takeWhile p = a := by
  rw [List.takeWhile_append_of_pos ha]
  cases b with
  | nil => simp
  | cons x r => simp [List.takeWhile, hb x rfl]

theorem nameMatchLen_le (b : Text) (l : Nat) (h : nameMatchLen b = some l) : l ≤ b.length := by
  unfold nameMatchLen at h
  simp only at h
  split at h
  · cases h
  · simp only [Option.some.injEq] at h
    have h2 := (List.takeWhile_prefix (l := b.drop (b.takeWhile isCtl).length) isAsciiAlpha).length_le
    have h3 := (List.takeWhile_prefix (l := (b.drop (b.takeWhile isCtl).length).drop
      ((b.drop (b.takeWhile isCtl).length).takeWhile isAsciiAlpha).length) isCtl).length_le
    simp only [List.length_drop] at h2 h3
    omega

theorem endMatchLen_append (a r : Text) (h3 : 3 ≤ a.length) (hh : ∀ c, a.head? = some c → isCtl c = false) :
    endMatchLen (a ++ r) = endMatchLen a := by
  match a, h3, hh with
  | x :: y :: z :: t, _, hh =>
    have hx := hh x rfl
    unfold endMatchLen
    simp only [List.cons_append, List.takeWhile, hx, List.length_nil, List.drop_zero]
    by_cases hs : x = '/'
    · subst hs; rfl
    · simp only

end DTML.Lemmas.Scanner

namespace DTML.Lemmas.Print
open DTML.Scan

/-- quote state (true = outside quotes) after walking over `b` -/
def qwalk : Text → Bool → Bool
  | [], e => e
  | c :: t, e => qwalk t (if c = '"' then !e else e)

/-- no `>` of `b` closes the tag: each one is inside a quoted string (or at position 0) -/
def gtQuoted : Text → Nat → Bool → Bool
  | [], _, _ => true
  | c :: t, i, e => !(decide (i ≥ 1) && decide (c = '>') && e) && gtQuoted t (i + 1) (if c = '"' then !e else e)

end DTML.Lemmas.Print

namespace DTML.Lemmas.Scanner
open DTML.Scan DTML.Lemmas.Print

theorem qwalk_append : ∀ (a b : Text) (e : Bool), qwalk (a ++ b) e = qwalk b (qwalk a e) := by
  intro a
  induction a with
  | nil => intro b e; rfl
  | cons c t ih => intro b e; simp only [List.cons_append, qwalk, ih]

theorem qwalk_of_no_quote : ∀ (b : Text) (e : Bool), (∀ c ∈ b, c ≠ '"') → qwalk b e = e := by
  intro b
  induction b with
  | nil => intro e _; rfl
  | cons c t ih =>
    intro e h
    have hc := h c (List.mem_cons_self ..)
    simp only [qwalk, hc, if_false]
    exact ih _ (fun d hd => h d (List.mem_cons_of_mem _ hd))

theorem qwalk_parity : ∀ (b : Text) (e : Bool), qwalk b e = (if countChar '"' b % 2 = 0 then e else !e) := by
  intro b
  induction b with
  | nil => intro e; rfl
  | cons c t ih =>
    intro e
    rw [qwalk, ih]
    by_cases hc : c = '"'
    · have : countChar '"' (c :: t) = countChar '"' t + 1 := by simp [countChar, hc]
      rw [this, if_pos hc]
      rcases Nat.mod_two_eq_zero_or_one (countChar '"' t) with h | h
      · rw [if_pos h, if_neg (by omega)]
      · rw [if_neg (by omega), if_pos (by omega), Bool.not_not]
    · have : countChar '"' (c :: t) = countChar '"' t := by simp [countChar, hc]
      rw [this, if_neg hc]

theorem gtQuoted_of_no_gt : ∀ (b : Text) (i : Nat) (e : Bool), (∀ c ∈ b, c ≠ '>') → gtQuoted b i e = true := by
  intro b
  induction b with
  | nil => intro i e _; rfl
  | cons c t ih =>
    intro i e h
    have hc := h c (List.mem_cons_self ..)
    simp only [gtQuoted, hc, decide_false, Bool.and_false, Bool.false_and, Bool.not_false, Bool.true_and]
    exact ih _ _ (fun d hd => h d (List.mem_cons_of_mem _ hd))

theorem gtQuoted_append : ∀ (a b : Text) (i : Nat) (e : Bool),
    gtQuoted (a ++ b) i e = (gtQuoted a i e && gtQuoted b (i + a.length) (qwalk a e)) := by
  intro a
  induction a with
  | nil => intro b i e; simp [gtQuoted, qwalk]
  | cons c t ih =>
    intro b i e
    simp only [List.cons_append, gtQuoted, ih, qwalk, List.length_cons, Bool.and_assoc]
    congr 3; omega

theorem gtQuoted_pos : ∀ (b : Text) (i : Nat) (e : Bool), 1 ≤ i → gtQuoted b i e = gtQuoted b 1 e := by
  intro b
  induction b with
  | nil => intro i e _; rfl
  | cons c t ih =>
    intro i e hi
    simp only [gtQuoted]
    rw [ih (i + 1) _ (by omega), ih (1 + 1) _ (by omega)]
    simp [hi]

theorem findCloseAux_append : ∀ (pre rest : Text) (i : Nat) (e : Bool), gtQuoted pre i e = true →
    findCloseAux (pre ++ rest) i e = findCloseAux rest (i + pre.length) (qwalk pre e) := by
  intro pre
  induction pre with
  | nil => intro rest i e _; rfl
  | cons c t ih =>
    intro rest i e hg
    simp only [gtQuoted, Bool.and_eq_true, Bool.not_eq_true'] at hg
    simp only [List.cons_append, findCloseAux, hg.1, Bool.false_eq_true, if_false, qwalk]
    rw [ih rest (i + 1) _ hg.2, List.length_cons]
    congr 1
    omega

theorem findCloseAux_walk (b r : Text) (i : Nat) (e : Bool) (hg : gtQuoted b i e = true) (hq : qwalk b e = true)
    (hi : 1 ≤ i + b.length) : findCloseAux (b ++ '>' :: r) i e = some (i + b.length) := by
  simp [findCloseAux_append b _ i e hg, hq, findCloseAux, hi]

theorem findCloseAux_none (l : Text) (i : Nat) (e : Bool) (h : ∀ c ∈ l, c ≠ '>') : findCloseAux l i e = none := by
  have := findCloseAux_append l [] i e (gtQuoted_of_no_gt l i e h)
  rwa [List.append_nil] at this

/-! ### `candidate` behind each of its opening markers -/

/-- what `candidate` does behind `<dtml-`, `</dtml-`, `<!--#` (when no end part follows) and `<!--#/`: `close` finds the
closing marker (`c` characters long) in the text `b` behind the opening marker `m`; the name is what `name_match` finds at
the start of `b`, the arguments are the rest up to the closing marker -/
def angle (close : Text → Option Nat) (c : Nat) (isEnd : Bool) (m b : Text) : Cand :=
  match close b with
  | none => .skip
  | some e =>
    match nameMatchLen b with
    | none => .skip
    | some l => .tok (m.length + e + c) { text := (m ++ b).take (m.length + e + c), isEnd := isEnd,
                                          name := pyStrip (b.take l), args := pyStrip ((b.take e).drop l) }

-- `by rfl` and not the term `rfl` in the four equations that hold by computation: the tactic checks them at half the cost
theorem candidate_dtml (b : Text) : candidate ("<dtml-".toList ++ b) = angle findClose 1 false "<dtml-".toList b := by rfl

theorem candidate_dtml_end (b : Text) :
    candidate ("</dtml-".toList ++ b) = angle findClose 1 true "</dtml-".toList b := by rfl

theorem candidate_ssi (b : Text) (h : endMatchLen b = none) :
    candidate ("<!--#".toList ++ b) = angle (findSub "-->".toList) 3 false "<!--#".toList b := by
  unfold candidate
  rw [if_pos (List.isPrefixOf_iff_prefix.mpr (List.prefix_append ..)), show List.drop 5 ("<!--#".toList ++ b) = b from rfl]
  dsimp only
  rw [h]
  simp only [List.drop_zero, Nat.zero_add]
  rfl

/-- a `/` is an end part: what follows it is scanned like a start tag's text, one place further on -/
theorem candidate_ssi_end (b : Text) :
    candidate ("<!--#".toList ++ '/' :: b) = angle (findSub "-->".toList) 3 true ("<!--#".toList ++ ['/']) b := by
  unfold candidate
  rw [if_pos (List.isPrefixOf_iff_prefix.mpr (List.prefix_append ..)),
    show List.drop 5 ("<!--#".toList ++ '/' :: b) = '/' :: b from rfl]
  dsimp only
  rw [show endMatchLen ('/' :: b) = some 1 from rfl,
    show findSub "-->".toList ('/' :: b) = (findSub "-->".toList b).map (· + 1) from rfl, angle]
  cases findSub "-->".toList b with
  | none => rfl
  | some e =>
    have hk : 5 + (e + 1) + 3 = ("<!--#".toList ++ ['/']).length + e + 3 := by
      rw [show ("<!--#".toList ++ ['/']).length = 6 by decide +kernel]
      omega
    simp only [Option.map_some, List.take_succ_cons, List.drop_succ_cons, List.drop_zero, Nat.add_comm 1]
    rw [hk, show (!List.isEmpty (pyStrip ('/' :: List.take 0 b))) = true from rfl, List.append_assoc,
      List.singleton_append]
    rfl

/-- what cannot continue a name does not change what `name_match` finds -/
theorem nameMatchLen_stop (b t : Text) (ht : ∀ c, t.head? = some c → isCtl c = false ∧ isAsciiAlpha c = false) :
    nameMatchLen (b ++ t) = nameMatchLen b := by
  cases t with
  | nil => rw [List.append_nil]
  | cons x r =>
    obtain ⟨h1, h2⟩ := ht x rfl
    unfold nameMatchLen
    simp only [takeWhile_append_stop isCtl b x r h1]
    have hw := (List.takeWhile_prefix (l := b) isCtl).length_le
    rw [List.drop_append_of_le_length hw]
    simp only [takeWhile_append_stop isAsciiAlpha _ x r h2]
    have hl := (List.takeWhile_prefix (l := b.drop (b.takeWhile isCtl).length) isAsciiAlpha).length_le
    rw [List.drop_append_of_le_length hl]
    simp only [takeWhile_append_stop isCtl _ x r h1]

/-- when `close` finds the closing marker right behind `b` and what stands there cannot continue a name, the tag is read
off `b` alone -/
theorem angle_closed (close : Text → Option Nat) (c : Nat) (isEnd : Bool) (m b t : Text)
    (ht : ∀ x, t.head? = some x → isCtl x = false ∧ isAsciiAlpha x = false) (hclose : close (b ++ t) = some b.length) :
    angle close c isEnd m (b ++ t) =
      match nameMatchLen b with
      | none => .skip
      | some l => .tok (m.length + b.length + c) { text := (m ++ (b ++ t)).take (m.length + b.length + c), isEnd := isEnd,
                                                   name := pyStrip (b.take l), args := pyStrip (b.drop l) } := by
  rw [angle, hclose, nameMatchLen_stop b t ht]
  cases hl : nameMatchLen b with
  | none => rfl
  | some l =>
    dsimp only
    rw [List.take_append_of_le_length (nameMatchLen_le b l hl), List.take_left' rfl]

theorem candidate_entity (b : Text) : candidate ("&dtml-".toList ++ b) =
    match findSub [';'] b with
    | none => .skip
    | some e =>
      if !(b.take e).isEmpty && (b.take e).all isEntChar then
        .tok (6 + e + 1) { text := ("&dtml-".toList ++ b).take (6 + e + 1), isEnd := false, name := "var".toList,
                           args := b.take e ++ " html_quote".toList }
      else .skip := by rfl

theorem candidate_entity_dot (b : Text) : candidate ("&dtml.".toList ++ b) =
    match findSub [';'] b with
    | none => .skip
    | some e =>
      if !(b.take e).isEmpty && (b.take e).all isEntChar then
        match findSub ['-'] (b.take e) with
        | none => .skip
        | some nn =>
          if nn < (b.take e).length - 1 then
            .tok (6 + e + 1) { text := ("&dtml.".toList ++ b).take (6 + e + 1), isEnd := false, name := "var".toList,
                               args := (b.take e).drop (nn + 1) ++ [' '] ++
                                 ((b.take e).take nn).map (fun c => if c = '.' then ' ' else c) }
          else .skip
      else .skip := by rfl

/-! ### a hit is an exact, non-empty prefix -/

theorem candidate_tok (s : Text) (len : Nat) (tk : Tok) (h : candidate s = .tok len tk) :
    tk.text = s.take len ∧ 1 ≤ len := by
  revert h
  -- branch by branch: a leaf of `candidate` is `.skip`, or `.tok n` with the text `s.take n` and `n = k + e + c`, `c ≥ 1`
  fun_cases candidate s
  all_goals
    intro h
    cases h
  all_goals exact ⟨rfl, by omega⟩

theorem epfsFinish_tok (s after name : Text) (nl a : Nat) (b : Bool) (e len : Nat) (tk : Tok)
    (h : epfsFinish s after name nl a b e = some (len, tk)) : tk.text = s.take len ∧ 1 ≤ len := by
  unfold epfsFinish at h
  split at h
  · split at h
    · cases h; exact ⟨rfl, by omega⟩
    · cases h
  · cases h

theorem matchEpfs_tok (s : Text) (len : Nat) (tk : Tok) (h : matchEpfs s = some (len, tk)) :
    tk.text = s.take len ∧ 1 ≤ len := by
  unfold matchEpfs at h
  simp (config := {zeta := true}) only at h
  split at h
  · cases h
  · split at h
    · exact epfsFinish_tok _ _ _ _ _ _ _ _ _ h
    · split at h
      next r hr =>
        cases h
        exact epfsFinish_tok _ _ _ _ _ _ _ _ _ hr
      next =>
        split at h
        · exact epfsFinish_tok _ _ _ _ _ _ _ _ _ h
        · cases h

/-! ### one search: the first position where the matcher hits -/

/-- what a scanner tries at the start of `s`: the tag there and its length -/
def tagAt : Syntax → Text → Option (Nat × Tok)
  | _, [] => none
  | .html, s@(c :: _) =>
    if c = '<' || c = '&' then (match candidate s with | .tok len tk => some (len, tk) | .skip => none) else none
  | .epfs, s@(c :: t) => if c = '%' && t.head? = some '(' then matchEpfs s else none

theorem scan_nil (syn : Syntax) : scan syn [] = none := by
  cases syn <;> rfl

theorem scan_cons (syn : Syntax) (c : Char) (t : Text) :
    scan syn (c :: t) =
      match tagAt syn (c :: t) with
      | some (len, tk) => some ([], tk, (c :: t).drop len)
      | none => (scan syn t).map fun (l, tk, r) => (c :: l, tk, r) := by
  cases syn
  · simp only [scan, scanHtml, tagAt]
    split
    · split <;> simp [*]
    · rfl
  · simp only [scan, scanEpfs, tagAt]
    split
    · split <;> simp [*]
    · rfl

theorem tagAt_tok (syn : Syntax) (s : Text) (len : Nat) (tk : Tok) (h : tagAt syn s = some (len, tk)) :
    tk.text = s.take len ∧ 1 ≤ len := by
  unfold tagAt at h
  split at h
  · cases h
  · split at h
    · split at h
      next hc =>
        cases h
        exact candidate_tok _ _ _ hc
      next => cases h
    · cases h
  · split at h
    · exact matchEpfs_tok _ _ _ h
    · cases h

theorem scan_append (syn : Syntax) (pre rest : Text) (h : ∀ c ∈ pre, ∀ t, tagAt syn (c :: t) = none) :
    scan syn (pre ++ rest) = (scan syn rest).map fun (l, tk, r) => (pre ++ l, tk, r) := by
  induction pre with
  | nil => rw [List.nil_append]; cases scan syn rest <;> rfl
  | cons c t ih =>
    rw [List.cons_append, scan_cons, h c (List.mem_cons_self ..), ih fun d hd => h d (List.mem_cons_of_mem _ hd)]
    cases scan syn rest <;> rfl

theorem scan_plain (pre rest : Text) (h : ∀ x ∈ pre, (x = '<' || x = '&') = false) :
    scan .html (pre ++ rest) = (scan .html rest).map fun (l, tk, r) => (pre ++ l, tk, r) :=
  scan_append .html pre rest fun x hx t => by simp only [tagAt, h x hx, Bool.false_eq_true, if_false]

theorem scan_hit (syn : Syntax) (s : Text) (len : Nat) (tk : Tok) (h : tagAt syn s = some (len, tk)) :
    scan syn s = some ([], tk, s.drop len) := by
  cases s with
  | nil => cases syn <;> cases h
  | cons c t => rw [scan_cons, h]

/-- **what a search step returns**: the literal, the tag's own text and the rest are the text searched, and the tag is not
empty -/
theorem scan_some (syn : Syntax) : ∀ (s lit rest : Text) (tk : Tok),
    scan syn s = some (lit, tk, rest) → lit ++ tk.text ++ rest = s ∧ 1 ≤ tk.text.length := by
  intro s
  induction s with
  | nil =>
    intro lit rest tk h
    rw [scan_nil] at h
    cases h
  | cons c t ih =>
    intro lit rest tk h
    rw [scan_cons] at h
    split at h
    next len tk' hc =>
      cases h
      obtain ⟨h1, h2⟩ := tagAt_tok _ _ _ _ hc
      rw [h1]
      exact ⟨List.take_append_drop .., by simp only [List.length_take, List.length_cons]; omega⟩
    next =>
      cases hq : scan syn t with
      | none => rw [hq] at h; cases h
      | some v =>
        rw [hq] at h
        cases h
        obtain ⟨h1, h2⟩ := ih _ _ _ hq
        exact ⟨congrArg (c :: ·) h1, h2⟩

end DTML.Lemmas.Scanner
