/-
What rendering does to the namespace, once for every relation between "state before" and "state after" that the
primitive changes respect.  The interpreter changes the state in five ways only: it appends to the trace and counts calls;
a lookup fills the cache of an InstanceDict; frames are pushed and popped again on every exit path (with the level raised
and restored around a sub-template); a block rewrites its own frame on top (the cache of `'i'` blocks, the bindings of
dtml-let, the sequence variables); `with … only` swaps the whole namespace and puts it back.  A relation closed under
these relates the state before any function of the interpreter to the state after it (`Closed.inv`).

The same induction shows that one more unit of fuel does not change an outcome that is not "out of fuel" (`Le` of
Lemmas/FuelOrder.lean): both facts are about what a function does with the outcomes of the functions it calls, so each step
is taken once, for the pair (`Both`).  Lemmas/Fuel.lean reads the second fact off the trivial relation.
-/
import DTML.Lemmas.FuelOrder
namespace DTML.Render
open DTML.Lemmas.Fuel

/-- `R` relates states between which the namespace is meant to be the same; `T` is the weaker relation the four loops
satisfy that rewrite the frame on top of the namespace, which belongs to the block that runs them -/
structure Closed (env : Env) (R T : St → St → Prop) : Prop where
  same {a b : St} : b.stack = a.stack → b.level = a.level → R a b
  trans {a b c : St} : R a b → R b c → R a c
  lookup {a : St} {key : Text} {v : Val} {stack' : List Frame} {tr' : List Event} :
    lookupStack env a.stack key a.trace = (.val v stack', tr') → R a { a with stack := stack', trace := tr' }
  /-- the level set, and restored -/
  level {a b : St} (l : Nat) : R { a with level := l } b → R a { b with level := a.level }
  toTop {a b : St} : R a b → T a b
  transTop {a b c : St} : T a b → T b c → T a c
  bindTop (k : Text) (v : Val) (a : St) : T a (bindTop k v a)
  setSeq (sv : SeqVars) (a : St) : T a (setSeq sv a)
  /-- frames pushed, and popped after something that kept all below the first of them (a loop rewrites it) -/
  popTop {a b : St} (f : Frame) (fs : List Frame) :
    T { a with stack := (f :: fs) ++ a.stack } b → R a { b with stack := b.stack.drop (fs.length + 1) }

/-- what the induction shows of a sub-computation: `x` (at some fuel) and `y` (at one more) are the same outcome unless `x`
ran out of fuel, and `x` ends in a state related to the state `st` it started from -/
def Both {α : Type} (R : St → St → Prop) (st : St) (x y : Res α × St) : Prop := Le x y ∧ R st x.2

/-- every function of the interpreter, at fuel `n` against `n + 1` -/
structure Inv (env : Env) (R T : St → St → Prop) (n : Nat) : Prop where
  getitem : ∀ key call st, Both R st (getitem env n key call st) (getitem env (n + 1) key call st)
  callSub : ∀ id st, Both R st (callSub env n id st) (callSub env (n + 1) id st)
  evalExpr : ∀ e st, Both R st (evalExpr env n e st) (evalExpr env (n + 1) e st)
  evalSrc : ∀ s st, Both R st (evalSrc env n s st) (evalSrc env (n + 1) s st)
  fetchVar : ∀ s hq null st, Both R st (fetchVar env n s hq null st) (fetchVar env (n + 1) s hq null st)
  renderBlocks : ∀ bs st, Both R st (renderBlocks env n bs st) (renderBlocks env (n + 1) bs st)
  withFrame : ∀ f body st, Both R st (withFrame env n f body st) (withFrame env (n + 1) f body st)
  renderJoined : ∀ body st, Both R st (renderJoined env n body st) (renderJoined env (n + 1) body st)
  framed : ∀ f body st, Both R st (framed env n f body st) (framed env (n + 1) f body st)
  inIter : ∀ sv o body i st, Both R st (inIter env n sv o body i st) (inIter env (n + 1) sv o body i st)
  raiseClass : ∀ cls e st, Both R st (classOf (raiseClass env n cls e st)) (classOf (raiseClass env (n + 1) cls e st))
  renderBlk : ∀ b st, Both R st (renderBlk env n b st) (renderBlk env (n + 1) b st)
  condLoop : ∀ cs els st, Both T st (condLoop env n cs els st) (condLoop env (n + 1) cs els st)
  inLoop : ∀ sv o body i st, Both T st (inLoop env n sv o body i st) (inLoop env (n + 1) sv o body i st)
  inLoopB : ∀ sv o w body i st, Both T st (inLoopB env n sv o w body i st) (inLoopB env (n + 1) sv o w body i st)
  inBatch : ∀ sv o bp w body els cache st,
    Both R st (inBatch env n sv o bp w body els cache st) (inBatch env (n + 1) sv o bp w body els cache st)
  resolveNames : ∀ names bp bad st,
    Both R st (resolveNames env n names bp bad st) (resolveNames env (n + 1) names bp bad st)
  evalSortKey : ∀ x st, Both R st (evalSortKey env n x st) (evalSortKey env (n + 1) x st)
  evalReverse : ∀ x st, Both R st (evalReverse env n x st) (evalReverse env (n + 1) x st)
  letLoop : ∀ binds body st, Both T st (letLoop env n binds body st) (letLoop env (n + 1) binds body st)

/-! A transitive relation goes through the sequencing combinators. -/

section Seq
variable {R : St → St → Prop} (tr : ∀ {a b c : St}, R a b → R b c → R a c)
include tr

theorem andThen_rel {α β : Type} {st : St} {x : Res α × St} {k : α → St → Res β × St} (hx : R st x.2)
    (hk : ∀ a s, R s (k a s).2) : R st (andThen x k).2 := by
  obtain ⟨r, s⟩ := x
  cases r with
  | ok a => exact tr hx (hk a s)
  | _ => exact hx

theorem always_rel {α β : Type} {st : St} {x : Res α × St} {k : Res α → St → Res β × St} (hx : R st x.2)
    (hk : ∀ r s, R s (k r s).2) : R st (always x k).2 := by
  obtain ⟨r, s⟩ := x
  cases r with
  | oom => exact hx
  | _ => exact tr hx (hk _ s)

end Seq

namespace Both
variable {α β : Type} {R R' : St → St → Prop} {st st' : St} {x y : Res α × St}

/-- the same computation on both sides -/
theorem same (h : R st x.2) : Both R st x x := ⟨Le.refl _, h⟩

theorem oom (h : R st st) : Both R st ((.oom : Res α), st) y := ⟨Le.oom _ _, h⟩

/-- the state adjusted after the sub-computation (frames popped, level restored): `hg` is the closure rule that applies -/
theorem withSt {g : St → St} (hx : Both R' st' x y) (hg : R' st' x.2 → R st (g x.2)) :
    Both R st (withSt x g) (Render.withSt y g) :=
  ⟨hx.1.comp (Render.withSt · g) fun _ => rfl, hg hx.2⟩

/-- a function of the outcome that leaves the state alone and hands "out of fuel" on (`oneRes`, `callResult`) -/
theorem map (f : Res α × St → Res β × St) (hs : ∀ x, (f x).2 = x.2) (ho : ∀ s, (f (.oom, s)).1 = .oom)
    (hx : Both R st x y) : Both R st (f x) (f y) :=
  ⟨hx.1.comp f ho, by rw [hs]; exact hx.2⟩

theorem oneRes {x y : Res Piece × St} (hx : Both R st x y) : Both R st (oneRes x) (Render.oneRes y) :=
  hx.map Render.oneRes oneRes_snd fun _ => rfl

theorem ite {c : Prop} [Decidable c] {x' y' : Res α × St} (ht : Both R st x y) (he : Both R st x' y') :
    Both R st (if c then x else x') (if c then y else y') := by
  split <;> assumption

end Both

namespace Closed
variable {env : Env} {R T : St → St → Prop} (h : Closed env R T)
include h

theorem refl (a : St) : R a a := h.same rfl rfl

/-- frames pushed, and popped after something that kept them all -/
theorem pop {a b : St} (fs : List Frame) (hx : R { a with stack := fs ++ a.stack } b) :
    R a { b with stack := b.stack.drop fs.length } := by
  cases fs with
  | nil => exact hx
  | cons f fs => exact h.popTop f fs (h.toTop hx)

theorem andThen {α β : Type} {st : St} {x : Res α × St} {k : α → St → Res β × St} (hx : R st x.2)
    (hk : ∀ a s, R s (k a s).2) : R st (andThen x k).2 :=
  andThen_rel (R := R) h.trans hx hk

theorem always {α β : Type} {st : St} {x : Res α × St} {k : Res α → St → Res β × St} (hx : R st x.2)
    (hk : ∀ r s, R s (k r s).2) : R st (always x k).2 :=
  always_rel (R := R) h.trans hx hk

/-! the pair through the combinators, for `R` and for `T` -/

section Seq
variable {α β : Type} {st st' : St} {x y : Res α × St}

theorem seq {k k' : α → St → Res β × St} (hx : Both R st x y) (hk : ∀ a s, Both R s (k a s) (k' a s)) :
    Both R st (Render.andThen x k) (Render.andThen y k') :=
  ⟨hx.1.andThen fun a s => (hk a s).1, h.andThen hx.2 fun a s => (hk a s).2⟩

theorem seqAll {k k' : Res α → St → Res β × St} (hx : Both R st x y) (hk : ∀ r s, Both R s (k r s) (k' r s)) :
    Both R st (Render.always x k) (Render.always y k') :=
  ⟨hx.1.always fun r s => (hk r s).1, h.always hx.2 fun r s => (hk r s).2⟩

theorem seqTop {k k' : α → St → Res β × St} (hx : Both T st x y) (hk : ∀ a s, Both T s (k a s) (k' a s)) :
    Both T st (Render.andThen x k) (Render.andThen y k') :=
  ⟨hx.1.andThen fun a s => (hk a s).1, andThen_rel (R := T) h.transTop hx.2 fun a s => (hk a s).2⟩

theorem seqAllTop {k k' : Res α → St → Res β × St} (hx : Both T st x y) (hk : ∀ r s, Both T s (k r s) (k' r s)) :
    Both T st (Render.always x k) (Render.always y k') :=
  ⟨hx.1.always fun r s => (hk r s).1, always_rel (R := T) h.transTop hx.2 fun r s => (hk r s).2⟩

/-- the sub-computation starts from a state reached by a related step -/
theorem after (h0 : R st st') (hx : Both R st' x y) : Both R st x y := ⟨hx.1, h.trans h0 hx.2⟩

theorem afterTop (h0 : T st st') (hx : Both T st' x y) : Both T st x y := ⟨hx.1, h.transTop h0 hx.2⟩

theorem top (hx : Both R st x y) : Both T st x y := ⟨hx.1, h.toTop hx.2⟩

end Seq

theorem invoke (id : Nat) (r : Val) (st : St) : R st (invoke env id r st).2 := by
  unfold Render.invoke
  split
  · exact h.same rfl rfl
  · split <;> exact h.same rfl rfl

theorem sortKeyOf (m : Bool) (k : Text) (x : Val) (st : St) : R st (sortKeyOf env m k x st).2 := by
  unfold Render.sortKeyOf
  dsimp only
  split
  · split <;> exact h.same rfl rfl
  all_goals exact h.refl _

theorem sortKeys (m : Bool) (k : Text) (xs : List Val) (st : St) : R st (sortKeys env m k xs st).2 := by
  induction xs generalizing st with
  | nil => exact h.refl _
  | cons x xs ihx =>
    rw [sortKeys_cons]
    exact h.andThen (h.sortKeyOf m k x st) fun _ s => h.andThen (ihx s) fun _ _ => h.refl _

theorem sortPart (o : InOpts) (x : InXOpts) (xs : List Val) (st : St) : R st (sortPart env o x xs st).2 := by
  cases hk : x.sortKey with
  | none => rw [Render.sortPart, hk]; exact h.refl _
  | some k =>
    rw [sortPart_some env o x k xs st hk]
    exact h.andThen (h.sortKeys _ _ _ _) fun _ _ => h.refl _

theorem arrange (o : InOpts) (x : InXOpts) (xs : List Val) (st : St) : R st (arrange env o x xs st).2 := by
  rw [arrange_eq]
  exact h.andThen (h.sortPart o x xs st) fun _ _ => h.refl _

theorem fetchItem_rel (i : Nat) (st : St) : R st (fetchItem env i st) := by
  unfold fetchItem
  split <;> exact h.same rfl rfl

/-! The functions among themselves: what holds of each at fuel `n` (against `n + 1`) holds of each at `n + 1`. -/

section Step
variable {n : Nat} (ih : Inv env R T n)
include ih

theorem condBranch_step (v : Val) (body : List Blk) (rest : List (Src × List Blk)) (els : Option (List Blk)) (st : St) :
    Both T st (condBranch env n v body rest els st) (condBranch env (n + 1) v body rest els st) :=
  .ite (h.top (ih.renderBlocks _ _)) (ih.condLoop _ _ _)

theorem elsePart_step (els : Option (List Blk)) (st : St) :
    Both R st (elsePart env n els st) (elsePart env (n + 1) els st) := by
  cases els with
  | some e => exact ih.renderJoined _ _
  | none => exact .same (h.refl _)

theorem loopItem_step (o : InOpts) (body : List Blk) (i : Nat) (denied : Bool) (svSkip svItem svNext : SeqVars) (st : St)
    {k k' : SeqVars → St → Res (List Piece) × St} (hk : ∀ sv s, Both T s (k sv s) (k' sv s)) :
    Both T st (loopItem env n o body i denied svSkip svItem svNext k st)
      (loopItem env (n + 1) o body i denied svSkip svItem svNext k' st) := by
  have hf := h.toTop (h.fetchItem_rel i st)
  refine .ite (.ite (h.afterTop hf (hk _ _)) (.same hf)) ?_
  refine h.seqTop (h.afterTop (h.transTop hf (h.setSeq _ _)) (h.top (ih.inIter _ _ _ _ _))) fun _ _ => ?_
  exact h.seqTop (hk _ _) fun _ _ => .same (h.toTop (h.refl _))

theorem loopAll_step (sv : SeqVars) (o : InOpts) (body : List Blk) (cache : List Frame) (st : St) :
    Both R st (loopAll env n sv o body cache st) (loopAll env (n + 1) sv o body cache st) :=
  h.seq ((ih.inLoop _ _ _ _ _).withSt (h.popTop _ cache)) fun _ _ =>
    .same (by rw [oneRes_snd, joinedPiece_snd]; exact h.refl _)

theorem inPrologue_step (src : Src) (els : Option (List Blk)) (st : St) {k k' : Val → List Val → St → Res (List Piece) × St}
    (hk : ∀ v xs s, Both R s (k v xs s) (k' v xs s)) :
    Both R st (inPrologue env n src els st k) (inPrologue env (n + 1) src els st k') := by
  refine h.seq (ih.evalSrc _ _) fun v s => ?_
  split
  · exact .same (h.refl _)
  · exact (h.elsePart_step ih _ _).oneRes
  · exact hk _ _ _

theorem inv_succ : Inv env R T (n + 1) where
  getitem key call st := by
    rw [getitem_succ, getitem_succ]
    split
    · exact .same (h.same rfl rfl)
    · exact .same (h.same rfl rfl)
    next hl =>
      have hst := h.lookup hl
      refine .ite ?_ (.same hst)
      split
      · exact .same (h.trans hst (h.invoke _ _ _))
      · exact h.after hst (ih.callSub _ _)
      · exact .same hst
  callSub id st := by
    rw [callSub_succ, callSub_succ]
    split
    · exact .same (h.refl _)
    · refine .ite (.same (h.refl _)) ?_
      exact ((ih.renderBlocks _ _).withSt fun hb => h.level (st.level + 1) (h.pop (subFrames _) hb)).map
        (callResult env) (callResult_snd env) fun _ => rfl
  evalExpr e st := by
    cases e with
    | lit v => rw [Render.evalExpr, Render.evalExpr]; exact .same (h.refl _)
    | name k =>
      rw [evalExpr_name, evalExpr_name]
      exact h.seqAll (ih.getitem _ _ _) fun _ _ => .same (h.refl _)
    | under k => rw [Render.evalExpr, Render.evalExpr]; exact ih.getitem _ _ _
    | not a => rw [evalExpr_not, evalExpr_not]; exact h.seq (ih.evalExpr _ _) fun _ _ => .same (h.refl _)
    | eq a b =>
      rw [evalExpr_eq, evalExpr_eq]
      exact h.seq (ih.evalExpr _ _) fun _ _ => h.seq (ih.evalExpr _ _) fun _ _ => .same (h.refl _)
    | call f =>
      rw [evalExpr_call, evalExpr_call]
      refine h.seq (ih.evalExpr _ _) fun v s => .same ?_
      split
      · exact h.invoke _ _ _
      · exact h.refl _
    | attr a name =>
      rw [evalExpr_attr, evalExpr_attr]
      refine h.seq (ih.evalExpr _ _) fun v s => .same ?_
      split
      · dsimp only
        split <;> exact h.same rfl rfl
      · exact h.refl _
    | item a k =>
      rw [evalExpr_item, evalExpr_item]
      exact h.seq (ih.evalExpr _ _) fun _ _ => .same (h.refl _)
  evalSrc s st := by
    cases s with
    | name k => simp only [Render.evalSrc]; exact ih.getitem _ _ _
    | expr e => simp only [Render.evalSrc]; exact ih.evalExpr _ _
  fetchVar s hq null st := by
    rw [fetchVar_succ, fetchVar_succ]
    exact h.seq (ih.evalSrc _ _) fun _ _ => .same (by rw [insertVal_snd]; exact h.refl _)
  renderBlocks bs st := by
    cases bs with
    | nil => simp only [Render.renderBlocks]; exact .same (h.refl _)
    | cons b rest =>
      rw [renderBlocks_cons, renderBlocks_cons]
      exact h.seq (ih.renderBlk _ _) fun _ _ => h.seq (ih.renderBlocks _ _) fun _ _ => .same (h.refl _)
  withFrame f body st := by
    rw [withFrame_succ, withFrame_succ]
    exact (ih.renderBlocks _ _).withSt (h.pop [f])
  renderJoined body st := by
    rw [renderJoined_succ, renderJoined_succ]
    exact h.seq (ih.renderBlocks _ _) fun _ _ => .same (by rw [joinRes_snd]; exact h.refl _)
  framed f body st := by
    rw [framed_succ, framed_succ]
    exact h.seq (ih.withFrame _ _ _) fun _ _ => .same (by rw [joinRes_snd]; exact h.refl _)
  inIter sv o body i st := by
    rw [inIter_succ, inIter_succ]
    exact .ite (ih.renderJoined _ _) (.ite (ih.framed _ _ _) (.ite (ih.renderJoined _ _) (ih.framed _ _ _)))
  raiseClass cls e st := by
    rw [raiseClass_succ, raiseClass_succ]
    cases e with
    | none => exact .same (h.refl _)
    | some e => exact h.seqAll (ih.evalExpr _ _) fun _ _ => .same (h.refl _)
  condLoop cs els st := by
    match cs with
    | [] =>
      simp only [Render.condLoop]
      cases els with
      | none => exact .same (h.toTop (h.refl _))
      | some b => exact h.top (ih.renderBlocks _ _)
    | (.name k, body) :: rest =>
      rw [condLoop_name, condLoop_name]
      refine h.seqAllTop (h.top (ih.getitem _ _ _)) fun r s => ?_
      cases r with
      | ok v => exact h.afterTop (h.bindTop _ _ _) (h.condBranch_step ih _ _ _ _ _)
      | raise e => exact .ite (h.condBranch_step ih _ _ _ _ _) (.same (h.toTop (h.refl _)))
      | _ => exact .same (h.toTop (h.refl _))
    | (.expr e, body) :: rest =>
      rw [condLoop_expr, condLoop_expr]
      exact h.seqTop (h.top (ih.evalExpr _ _)) fun _ _ => h.condBranch_step ih _ _ _ _ _
  letLoop binds body st := by
    match binds with
    | [] => rw [letLoop_nil, letLoop_nil]; exact (h.top (ih.renderJoined _ _)).oneRes
    | (k, src) :: rest =>
      rw [letLoop_cons, letLoop_cons]
      exact h.seqTop (h.top (ih.evalSrc _ _)) fun _ _ => h.afterTop (h.bindTop _ _ _) (ih.letLoop _ _ _)
  inLoop sv o body i st := by
    rw [inLoop_succ, inLoop_succ]
    split
    · exact .same (h.toTop (h.refl _))
    · exact h.loopItem_step ih _ _ _ _ _ _ _ _ fun _ _ => ih.inLoop _ _ _ _ _
  inLoopB sv o w body i st := by
    rw [inLoopB_succ, inLoopB_succ]
    split
    · exact .same (h.toTop (h.refl _))
    · exact h.loopItem_step ih _ _ _ _ _ _ _ _ fun _ _ => ih.inLoopB _ _ _ _ _ _
  inBatch sv0 o bp w body els cache st := by
    rw [inBatch_succ, inBatch_succ]
    split
    · split
      · exact (h.top (ih.renderJoined _ _)).withSt (h.popTop _ cache)
      · exact (h.top (h.elsePart_step ih _ _)).withSt (h.popTop _ cache)
    · split
      · split
        · exact (h.top (ih.renderJoined _ _)).withSt (h.popTop _ cache)
        · exact (h.top (h.elsePart_step ih _ _)).withSt (h.popTop _ cache)
      · refine Both.withSt (h.seqTop (ih.inLoopB _ _ _ _ _ _) fun _ _ => .same ?_) (h.popTop _ cache)
        rw [joinedPiece_snd]
        exact h.toTop (h.refl _)
  resolveNames names bp bad st := by
    match names with
    | [] => unfold Render.resolveNames; exact .same (h.refl _)
    | (p, nm) :: rest =>
      rw [resolveNames_cons, resolveNames_cons]
      refine h.seqAll (ih.getitem _ _ _) fun r s => ?_
      cases r with
      | ok v =>
        dsimp only
        split
        · exact ih.resolveNames _ _ _ _
        · exact ih.resolveNames _ _ _ _
        · exact .ite (ih.resolveNames _ _ _ _) (.same (h.refl _))
      | oom => exact .same (h.refl _)
      | _ => exact .ite (ih.resolveNames _ _ _ _) (.same (h.refl _))
  evalSortKey x st := by
    rw [evalSortKey_succ, evalSortKey_succ]
    split
    · exact .same (h.refl _)
    · exact h.seq (ih.evalExpr _ _) fun _ _ => .same (h.refl _)
  evalReverse x st := by
    rw [evalReverse_succ, evalReverse_succ]
    split
    · exact .same (h.refl _)
    · exact h.seq (ih.evalExpr _ _) fun _ _ => .same (h.refl _)
  renderBlk b st := by
    have pop : ∀ {f : Frame} {x y : Res (List Piece) × St}, Both T { st with stack := f :: st.stack } x y →
        Both R st (withSt x popFrame) (withSt y popFrame) := fun hx => hx.withSt (h.popTop _ [])
    cases b with
    | lit s => unfold Render.renderBlk; exact .same (h.refl _)
    | comment => unfold Render.renderBlk; exact .same (h.refl _)
    | var src hq missing null =>
      cases src with
      | expr e => exact ih.fetchVar _ _ _ _
      | name k =>
        simp only [Render.renderBlk]
        refine .ite ?_ (ih.fetchVar _ _ _ _)
        split
        · exact .same (by split <;> exact h.same rfl rfl)
        · exact .same (h.same rfl rfl)
        next hl => exact h.after (h.lookup hl) (ih.fetchVar _ _ _ _)
    | call src =>
      rw [renderBlk_call, renderBlk_call]
      exact h.seq (pop (ih.condLoop _ _ _)) fun _ _ => .same (h.refl _)
    | cond conds els => rw [renderBlk_cond, renderBlk_cond]; exact pop (ih.condLoop _ _ _)
    | unless_ src body => rw [renderBlk_unless, renderBlk_unless]; exact pop (ih.condLoop _ _ _)
    | let_ binds body => rw [renderBlk_let, renderBlk_let]; exact pop (ih.letLoop _ _ _)
    | ret src => rw [renderBlk_ret, renderBlk_ret]; exact h.seq (ih.evalSrc _ _) fun _ _ => .same (h.refl _)
    | raise_ cls clsExpr body =>
      rw [renderBlk_raise, renderBlk_raise]
      exact h.seq (ih.raiseClass _ _ _) fun _ _ => h.seqAll (ih.renderJoined _ _) fun _ _ => .same (h.refl _)
    | tryFin body fin =>
      rw [renderBlk_tryFin, renderBlk_tryFin]
      refine h.seqAll (ih.renderJoined _ _) fun r s => h.seq (ih.renderJoined _ _) fun q s => .same ?_
      cases r with
      | ok p => rw [join2_snd]; exact h.refl _
      | _ => exact h.refl _
    | try_ body handlers els =>
      rw [renderBlk_try, renderBlk_try]
      refine h.seqAll (ih.renderJoined _ _) fun r s => ?_
      cases r with
      | ok p =>
        cases els with
        | none => exact .same (h.refl _)
        | some e => exact h.seq (ih.renderJoined _ _) fun _ _ => .same (by rw [join2_snd]; exact h.refl _)
      | raise ex =>
        dsimp only
        split
        · exact .same (h.refl _)
        · exact (ih.framed _ _ _).oneRes
      | _ => exact .same (h.refl _)
    | with_ src mapping only body =>
      rw [renderBlk_with, renderBlk_with]
      refine h.seq (ih.evalSrc _ _) fun v s => .ite ?_ (ih.framed _ _ _).oneRes
      exact Both.oneRes (Both.withSt (ih.renderJoined _ _) fun _ => h.same rfl rfl)
    | in_ src o body els =>
      rw [renderBlk_in, renderBlk_in]
      exact h.inPrologue_step ih _ _ _ fun _ _ _ => h.loopAll_step ih _ _ _ _ _
    | inx_ src o x body els =>
      rw [renderBlk_inx, renderBlk_inx]
      refine h.inPrologue_step ih _ _ _ fun v xs s => ?_
      refine h.seq (ih.evalSortKey _ _) fun key s => ?_
      refine h.seq (.same (h.sortPart _ _ _ _)) fun sorted s => ?_
      refine h.seq (ih.evalReverse _ _) fun rev s => ?_
      cases x.batch with
      | none => exact h.loopAll_step ih _ _ _ _ _
      | some bp0 =>
        refine h.seq (ih.resolveNames _ _ _ _) fun pb s => .ite (.same (h.refl _)) ?_
        exact h.seqAll (ih.getitem _ _ _) fun _ _ => (ih.inBatch _ _ _ _ _ _ _ _).oneRes

end Step

/-- without fuel every function is "out of fuel", by definition -/
theorem inv_zero : Inv env R T 0 where
  getitem _ _ _ := .oom (h.refl _)
  callSub _ _ := .oom (h.refl _)
  evalExpr _ _ := .oom (h.refl _)
  evalSrc _ _ := .oom (h.refl _)
  fetchVar _ _ _ _ := .oom (h.refl _)
  renderBlocks _ _ := .oom (h.refl _)
  withFrame _ _ _ := .oom (h.refl _)
  renderJoined _ _ := .oom (h.refl _)
  framed _ _ _ := .oom (h.refl _)
  inIter _ _ _ _ _ := .oom (h.refl _)
  raiseClass _ _ _ := .oom (h.refl _)
  renderBlk _ _ := .oom (h.refl _)
  condLoop _ _ _ := .oom (h.toTop (h.refl _))
  inLoop _ _ _ _ _ := .oom (h.toTop (h.refl _))
  inLoopB _ _ _ _ _ _ := .oom (h.toTop (h.refl _))
  inBatch _ _ _ _ _ _ _ _ := .oom (h.refl _)
  resolveNames _ _ _ _ := .oom (h.refl _)
  evalSortKey _ _ := .oom (h.refl _)
  evalReverse _ _ := .oom (h.refl _)
  letLoop _ _ _ := .oom (h.toTop (h.refl _))

/-- every function of the interpreter, at every fuel: one more unit of fuel gives the same outcome unless the evaluation had
run out of fuel, and the state it ends in is related to the state it started from -/
theorem inv (n : Nat) : Inv env R T n := by
  induction n with
  | zero => exact h.inv_zero
  | succ n ih => exact h.inv_succ ih

end Closed
end DTML.Render
