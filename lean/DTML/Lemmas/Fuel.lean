/-
Fuel monotonicity of the interpreter model (DTML/Render.lean): giving an evaluation more fuel
never changes a result that was not "out of fuel".  Hence the fuel-indexed functions define a
deterministic big-step semantics: an outcome does not depend on the fuel chosen (`outcome_unique`).
The induction is the one of Lemmas/Invariant.lean (`Closed.inv`), taken at the relation that holds of any two states.
-/
import DTML.Lemmas.Invariant
namespace DTML.Lemmas.Fuel
open DTML.Render

theorem closed_any (env : Env) : Closed env (fun _ _ => True) (fun _ _ => True) :=
  ⟨fun _ _ => trivial, fun _ _ => trivial, fun _ => trivial, fun _ _ => trivial, fun _ => trivial,
    fun _ _ => trivial, fun _ _ _ => trivial, fun _ _ => trivial, fun _ _ _ => trivial⟩

/-- **Fuel monotonicity**: for every function of the interpreter and every fuel, one more unit of
fuel gives the same outcome unless the evaluation had run out of fuel -/
theorem mono_all (env : Env) : ∀ n, Mono env n := by
  intro n
  have h := (closed_any env).inv n
  exact {
    getitem := fun key call st => (h.getitem key call st).1
    callSub := fun id st => (h.callSub id st).1
    evalExpr := fun e st => (h.evalExpr e st).1
    evalSrc := fun s st => (h.evalSrc s st).1
    fetchVar := fun s hq null st => (h.fetchVar s hq null st).1
    renderBlocks := fun bs st => (h.renderBlocks bs st).1
    withFrame := fun f body st => (h.withFrame f body st).1
    renderJoined := fun body st => (h.renderJoined body st).1
    framed := fun f body st => (h.framed f body st).1
    condLoop := fun cs els st => (h.condLoop cs els st).1
    inIter := fun sv o body i st => (h.inIter sv o body i st).1
    inLoop := fun sv o body i st => (h.inLoop sv o body i st).1
    inLoopB := fun sv o w body i st => (h.inLoopB sv o w body i st).1
    inBatch := fun sv o bp w body els cache st => (h.inBatch sv o bp w body els cache st).1
    resolveNames := fun names bp bad st => (h.resolveNames names bp bad st).1
    evalSortKey := fun x st => (h.evalSortKey x st).1
    evalReverse := fun x st => (h.evalReverse x st).1
    raiseClass := fun cls e st => .of_classOf (h.raiseClass cls e st).1
    renderBlk := fun b st => (h.renderBlk b st).1
    letLoop := fun binds body st => (h.letLoop binds body st).1 }

set_option linter.unusedVariables false in
theorem inLoop_step (env : Env) (n : Nat) (ih : Mono env n)
    (sv : SeqVars) (o : InOpts) (body : List Blk) (i : Nat) (st : St) :
    Le (inLoop env (n + 1) sv o body i st) (inLoop env (n + 2) sv o body i st) :=
  (mono_all env (n + 1)).inLoop sv o body i st

set_option linter.unusedVariables false in
theorem inLoopB_step (env : Env) (n : Nat) (ih : Mono env n) (sv : SeqVars) (o : InOpts) (w : BWin) (body : List Blk)
    (i : Nat) (st : St) :
    Le (inLoopB env (n + 1) sv o w body i st) (inLoopB env (n + 2) sv o w body i st) :=
  (mono_all env (n + 1)).inLoopB sv o w body i st

set_option linter.unusedVariables false in
theorem inBatch_step (env : Env) (n : Nat) (ih : Mono env n) (sv0 : SeqVars) (o : InOpts) (bp : BatchP) (w : BWin)
    (body : List Blk) (els : Option (List Blk)) (cache : List Frame) (st : St) :
    Le (inBatch env (n + 1) sv0 o bp w body els cache st) (inBatch env (n + 2) sv0 o bp w body els cache st) :=
  (mono_all env (n + 1)).inBatch sv0 o bp w body els cache st

/-- lifting along any amount of extra fuel -/
theorem lift {α : Type} (f : Nat → Res α × St) (hstep : ∀ n, Le (f n) (f (n + 1))) (n : Nat) (r : Res α) (s : St)
    (h : f n = (r, s)) (hr : r ≠ .oom) : ∀ k, f (n + k) = (r, s) := by
  intro k
  induction k with
  | zero => exact h
  | succ k ih =>
    rcases hstep (n + k) with h1 | h1
    · rw [ih] at h1; exact (hr h1).elim
    · rw [← Nat.add_assoc, ← h1, ih]

theorem renderBlocks_lift (env : Env) (n : Nat) (bs : List Blk) (st : St) (r : Res (List Piece)) (s : St)
    (h : renderBlocks env n bs st = (r, s)) (hr : r ≠ .oom) (m : Nat) (hm : n ≤ m) : renderBlocks env m bs st = (r, s) := by
  obtain ⟨k, rfl⟩ := Nat.exists_eq_add_of_le hm
  exact lift (fun n => renderBlocks env n bs st) (fun n => (mono_all env n).renderBlocks bs st) n r s h hr k

theorem renderBlk_lift (env : Env) (n : Nat) (b : Blk) (st : St) (r : Res (List Piece)) (s : St)
    (h : renderBlk env n b st = (r, s)) (hr : r ≠ .oom) (m : Nat) (hm : n ≤ m) : renderBlk env m b st = (r, s) := by
  obtain ⟨k, rfl⟩ := Nat.exists_eq_add_of_le hm
  exact lift (fun n => renderBlk env n b st) (fun n => (mono_all env n).renderBlk b st) n r s h hr k

/-- **The interpreter is a deterministic big-step semantics**: an outcome that is not "out of fuel"
does not depend on the fuel it was computed with -/
theorem outcome_unique (env : Env) (n m : Nat) (bs : List Blk) (st : St) (r r' : Res (List Piece)) (s s' : St)
    (h : renderBlocks env n bs st = (r, s)) (h' : renderBlocks env m bs st = (r', s'))
    (hr : r ≠ .oom) (hr' : r' ≠ .oom) : r = r' ∧ s = s' := by
  have a := renderBlocks_lift env n bs st r s h hr (max n m) (Nat.le_max_left _ _)
  have b := renderBlocks_lift env m bs st r' s' h' hr' (max n m) (Nat.le_max_right _ _)
  exact Prod.mk.inj (a.symm.trans b)

end DTML.Lemmas.Fuel
