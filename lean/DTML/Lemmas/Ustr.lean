/-
Helper definitions and lemmas for the obligations about `ustr` / `_exception_str` as translated from the source
(DTML/GenUstr.lean); the theorems are in Props/C19.lean.
-/
import DTML.GenUstr
namespace DTML.Lemmas.Ustr
open DTML.Render DTML.GenUstr

/-- a piece of the model as the Python value `ustr` returns -/
def ofPiece : Piece → PyV
  | .text s => .val (.str s)
  | .bytes b => .val (.bytes b)

def isStrOrBytes (v : PyV) : Bool := pyIsinstance v [PyClass.str, PyClass.bytes]

def wrongType : Exc := ⟨"ValueError".toList, "__str__ returned wrong type".toList⟩

/-- **where a conversion may raise `e`**: the value's own `__str__` raises it (`own`), returns something that is neither
str nor bytes (`wrong`), is None on a non-exception object so that the built-in `str()` is asked and raises (`none`); the
value is a class whose `str()` raises - a metaclass of the client's - (`cls`), or a tuple whose `str()` - the `repr` of its
elements - raises (`tup`); an exception object whose only argument misbehaves in one of these ways (`arg`), whose several
arguments have a `repr` that raises (`args`), or that has no `args` and a `str()` that raises (`bare`) -/
inductive Misbehaves (lib : Lib) : PyV → Exc → Prop where
  | own (id : Nat) (e : Exc) (h : lib.callStr id = .raise e) : Misbehaves lib (.inst id) e
  | wrong (id : Nat) (r : PyV) (h : lib.callStr id = .ok r) (hr : isStrOrBytes r = false) :
      Misbehaves lib (.inst id) wrongType
  | none (id : Nat) (e : Exc) (h : lib.str (.noStr id) = .raise e) : Misbehaves lib (.noStr id) e
  | cls (n : Text) (e : Exc) (h : lib.str (.cls n) = .raise e) : Misbehaves lib (.cls n) e
  | tup (xs : List PyV) (e : Exc) (h : lib.str (.tup xs) = .raise e) : Misbehaves lib (.tup xs) e
  | arg (a : PyV) (e : Exc) (h : Misbehaves lib a e) : Misbehaves lib (.excObj [a]) e
  | args (a b : PyV) (t : List PyV) (e : Exc) (h : lib.str (.tup (a :: b :: t)) = .raise e) :
      Misbehaves lib (.excObj (a :: b :: t)) e
  | bare (id : Nat) (e : Exc) (h : lib.str (.excBare id) = .raise e) : Misbehaves lib (.excBare id) e

theorem pyIsinstance_false {v : PyV} (h : ∀ c, isinstance1 v c = false) (cs : List PyClass) :
    pyIsinstance v cs = false := by
  simp [pyIsinstance, h]

/-! `_exception_str` and `ustr` as translated, on each kind of value the model leaves out -/
section
variable (lib : Lib) (u : PyV → Res PyV) (fuel : Nat)

theorem exceptionStr_nil : exceptionStrGen lib u (.excObj []) = .ok (.val (.str [])) := rfl

theorem exceptionStr_one (a : PyV) : exceptionStrGen lib u (.excObj [a]) = u a := rfl

theorem exceptionStr_many (a b : PyV) (t : List PyV) :
    exceptionStrGen lib u (.excObj (a :: b :: t)) = strRes (lib.str (.tup (a :: b :: t))) := by
  have : ¬ ((t.length : Int) + 1 + 1 = 1) := by omega
  simp [exceptionStrGen, pyHasattr, pyAttr, andThen, pyTruth, pyLen, pyStr, this]

theorem exceptionStr_bare (id : Nat) : exceptionStrGen lib u (.excBare id) = strRes (lib.str (.excBare id)) := rfl

theorem ustrGen_cls (n : Text) : ustrGen lib (fuel + 1) (.cls n) = strRes (lib.str (.cls n)) := by
  simp [ustrGen, pyIsinstance, isinstance1, pyGetattr, pyStr]

theorem ustrGen_excObj (args : List PyV) :
    ustrGen lib (fuel + 1) (.excObj args) = exceptionStrGen lib (ustrGen lib fuel) (.excObj args) := by
  simp [ustrGen, pyIsinstance, isinstance1, pyGetattr]

theorem ustrGen_excBare (id : Nat) :
    ustrGen lib (fuel + 1) (.excBare id) = exceptionStrGen lib (ustrGen lib fuel) (.excBare id) := by
  simp [ustrGen, pyIsinstance, isinstance1, pyGetattr]

theorem ustrGen_noStr (id : Nat) : ustrGen lib (fuel + 1) (.noStr id) = strRes (lib.str (.noStr id)) := by
  simp [ustrGen, pyIsinstance, isinstance1, pyGetattr, pyStr]

/-- on a value of the model: an exception stands for its message, converted with the fuel that is left -/
theorem ustrGen_val (v : Val) :
    ustrGen lib (fuel + 1) (.val v) =
      match v with
      | .exc _ m => ustrGen lib fuel (.val (.str m))
      | _ => .ok (ofPiece (pieceOfVal v)) := by
  cases v with
  | exc c m => rfl
  | bool b => cases b <;> rfl
  | _ => rfl

end

theorem strRes_raise (r : Res Text) (e : Exc) (h : strRes r = .raise e) : r = .raise e := by
  cases r <;> simp_all [strRes, andThen]

theorem strRes_ret (r : Res Text) (x : Val) (h : strRes r = .ret x) : r = .ret x := by
  cases r <;> simp_all [strRes, andThen]

theorem strRes_oom (r : Res Text) (h : strRes r = .oom) : r = .oom := by
  cases r <;> simp_all [strRes, andThen]

end DTML.Lemmas.Ustr
