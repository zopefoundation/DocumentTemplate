/-
Association lists as the namespace uses them (`List.lookup` after a `filter` / `setKV`); what a frame answers (`frameGet`, branch
by branch); how the walk down the namespace (`lookupStack`) composes those answers; `getitem` in terms of the walk.
-/
import DTML.Render
namespace DTML.Render

/-- a filter on the keys: the entry under `n` is kept or dropped with `n` -/
theorem lookup_filter_key {α} (p : Text → Bool) (l : List (Text × α)) (n : Text) :
    (l.filter fun kv => p kv.1).lookup n = if p n then l.lookup n else none := by
  induction l with
  | nil => simp
  | cons kv t ih =>
    obtain ⟨k, v⟩ := kv
    rw [List.filter_cons, List.lookup_cons]
    by_cases hn : n = k
    · subst hn
      cases hp : p n
      · simpa [hp] using ih
      · simp
    · have hne : (n == k) = false := by simpa using hn
      rw [hne]
      split
      · rw [List.lookup_cons, hne, ih]
      · exact ih

theorem lookup_setKV_self (kvs : List (Text × Val)) (k : Text) (v : Val) : (setKV kvs k v).lookup k = some v := by
  simp [setKV, List.lookup_append, lookup_filter_key (· != k), List.lookup]

theorem lookup_setKV_ne (kvs : List (Text × Val)) (k n : Text) (v : Val) (h : n ≠ k) :
    (setKV kvs k v).lookup n = kvs.lookup n := by
  have : (n == k) = false := by simpa using h
  simp [setKV, List.lookup_append, lookup_filter_key (· != k), List.lookup, h, this]

variable (env : Env) (key : Text) (tr : List Event)

theorem frameGet_dict (kvs : List (Text × Val)) :
    frameGet env (.dict kvs) key tr =
      match kvs.lookup key with
      | some v => (.val v (.dict kvs), tr)
      | none => (.missing, tr) := rfl

theorem frameGet_inst_hit {v : Val} {cache : List (Text × Val)} {c : Val} (hc : cache.lookup key = some c) :
    frameGet env (.inst v cache) key tr = (.val c (.inst v cache), tr) := by
  simp only [frameGet, hc]

/-- a private name never reaches the object: only `__str__` is answered -/
theorem frameGet_inst_private {v : Val} {cache : List (Text × Val)} (hc : cache.lookup key = none)
    (hu : key.head? = some '_') :
    frameGet env (.inst v cache) key tr =
      if key = "__str__".toList then (.val (.str (ustr v)) (.inst v cache), tr) else (.missing, tr) := by
  simp only [frameGet, hc, hu, if_true]

/-- a public name that is not cached: the guard, then the attribute, which is cached -/
theorem frameGet_inst_obj {id : Nat} {attrs cache : List (Text × Val)} (hc : cache.lookup key = none)
    (hu : key.head? ≠ some '_') :
    frameGet env (.inst (.obj id attrs) cache) key tr =
      (if env.guardOn && isDenied env id key then .raise (unauthorized key)
       else match attrs.lookup key with
         | some a => .val a (.inst (.obj id attrs) (cache ++ [(key, a)]))
         | none => .missing,
       if env.guardOn && id != 0 then tr ++ [.guard id key] else tr) := by
  simp only [frameGet, hc, hu, if_false]
  cases env.guardOn && isDenied env id key
  · cases attrs.lookup key <;> rfl
  · rfl

theorem frameGet_inst_other {v : Val} {cache : List (Text × Val)} (hc : cache.lookup key = none)
    (hu : key.head? ≠ some '_') (hv : ∀ id attrs, v ≠ .obj id attrs) :
    frameGet env (.inst v cache) key tr = (.missing, tr) := by
  simp only [frameGet, hc, hu, if_false]

variable {env key tr} in
/-- **What a frame hands back with a value**: itself - or, an InstanceDict that has just read a public attribute of its
object, itself with that attribute added to its cache. -/
theorem frameGet_val {f f' : Frame} {v : Val} {tr' : List Event} (h : frameGet env f key tr = (.val v f', tr')) :
    f' = f ∨ ∃ id attrs cache, f = .inst (.obj id attrs) cache ∧ f' = .inst (.obj id attrs) (cache ++ [(key, v)]) ∧
      attrs.lookup key = some v ∧ key.head? ≠ some '_' := by
  unfold frameGet at h
  repeat' split at h
  all_goals cases h
  all_goals first
    | exact .inl rfl
    | exact .inr ⟨_, _, _, rfl, rfl, ‹_›, ‹_›⟩

theorem lookupStack_cons_val {f f' : Frame} {v : Val} {tr' : List Event} (fs : List Frame)
    (h : frameGet env f key tr = (.val v f', tr')) :
    lookupStack env (f :: fs) key tr = (.val v (f' :: fs), tr') := by
  simp only [lookupStack, h]

theorem lookupStack_cons_raise {f : Frame} {e : Exc} {tr' : List Event} (fs : List Frame)
    (h : frameGet env f key tr = (.raise e, tr')) :
    lookupStack env (f :: fs) key tr = (.raise e, tr') := by
  simp only [lookupStack, h]

theorem lookupStack_cons_missing {f : Frame} {tr' : List Event} (fs : List Frame)
    (h : frameGet env f key tr = (.missing, tr')) :
    lookupStack env (f :: fs) key tr =
      match lookupStack env fs key tr' with
      | (.val v fs', t) => (.val v (f :: fs'), t)
      | r => r := by
  simp only [lookupStack, h]
  rcases lookupStack env fs key tr' with ⟨_ | _ | _, t⟩ <;> rfl

variable {env key} in
/-- **What the walk hands back with a value**: the namespace with the one frame that answered as `frameGet` hands it back -/
theorem lookupStack_val : ∀ {stack stack' : List Frame} {v : Val} {tr tr' : List Event},
    lookupStack env stack key tr = (.val v stack', tr') →
    ∃ pre f f' post t, stack = pre ++ f :: post ∧ stack' = pre ++ f' :: post ∧ frameGet env f key t = (.val v f', tr') := by
  intro stack
  induction stack with
  | nil => intro _ _ _ _ h; cases h
  | cons f fs ih =>
    intro stack' v tr tr' h
    rcases hf : frameGet env f key tr with ⟨_ | _ | _, t⟩
    · rw [lookupStack_cons_val env key tr fs hf] at h
      cases h
      exact ⟨[], f, _, fs, tr, rfl, rfl, hf⟩
    · rw [lookupStack_cons_missing env key tr fs hf] at h
      rcases hl : lookupStack env fs key t with ⟨_ | _ | _, t2⟩ <;> rw [hl] at h <;> cases h
      obtain ⟨pre, g, g', post, t3, rfl, rfl, hg⟩ := ih hl
      exact ⟨f :: pre, g, g', post, t3, rfl, rfl, hg⟩
    · rw [lookupStack_cons_raise env key tr fs hf] at h
      cases h

/-- a dictionary on top that has the name answers first: nothing below it is consulted, nothing is traced -/
theorem lookupStack_dict_hit {kvs : List (Text × Val)} {v : Val} (fs : List Frame) (h : kvs.lookup key = some v) :
    lookupStack env (.dict kvs :: fs) key tr = (.val v (.dict kvs :: fs), tr) :=
  lookupStack_cons_val env key tr fs (by rw [frameGet_dict, h])

/-- **Any loop over the frames that stops at the first answer is the walk**: a function that passes a frame answering
"not here" (remembering it in `above`), stops at a frame that raises, and hands the first value `v` to `found` - in
the namespace as the answering frame leaves it -, computes `lookupStack` followed by `found` / `raised` / `missing`.
(The loops the translators make of `for e in reversed(self._data): try: e = e[key] except (KeyError, NameError):
continue` are of this form.) -/
theorem lookupStack_loop {β : Type} (loop : List Frame → List Frame → St → β)
    (missing : St → β) (raised : Exc → St → β) (found : Val → St → β)
    (hnil : ∀ above st, loop [] above st = missing st)
    (hcons : ∀ f below above st, loop (f :: below) above st =
      match frameGet env f key st.trace with
      | (.missing, tr) => loop below (above ++ [f]) { st with trace := tr }
      | (.raise e, tr) => raised e { st with trace := tr }
      | (.val v f', tr) => found v { st with stack := above ++ f' :: below, trace := tr }) :
    ∀ (below above : List Frame) (st : St),
    loop below above st =
      match lookupStack env below key st.trace with
      | (.missing, tr) => missing { st with trace := tr }
      | (.raise e, tr) => raised e { st with trace := tr }
      | (.val v below', tr) => found v { st with stack := above ++ below', trace := tr } := by
  intro below
  induction below with
  | nil =>
    intro above st
    rw [hnil]
    rfl
  | cons f fs ih =>
    intro above st
    rw [hcons]
    rcases hf : frameGet env f key st.trace with ⟨_ | _ | _, tr⟩
    · rw [lookupStack_cons_val env key _ fs hf]
    · rw [lookupStack_cons_missing env key _ fs hf]
      dsimp only
      rw [ih]
      rcases lookupStack env fs key tr with ⟨_ | _ | _, tr2⟩
      · simp only [List.append_assoc, List.singleton_append]
      · rfl
      · rfl
    · rw [lookupStack_cons_raise env key _ fs hf]

/-- **Innermost first.**  When every frame answers with what `offer` says it offers (and traces nothing), the walk answers
with the first offer from the top, and with "undefined" when there is none. -/
theorem lookupStack_first_offer (offer : Frame → Option Val) :
    ∀ (fs : List Frame),
    (∀ f ∈ fs, match offer f with
      | some v => ∃ f', frameGet env f key tr = (.val v f', tr)
      | none => frameGet env f key tr = (.missing, tr)) →
    (match fs.findSome? offer with
     | some v => ∃ fs', lookupStack env fs key tr = (.val v fs', tr)
     | none => lookupStack env fs key tr = (.missing, tr)) := by
  intro fs
  induction fs with
  | nil => intro _; rfl
  | cons f fs ih =>
    intro h
    have hf := h f (List.mem_cons_self ..)
    have ih' := ih fun g hg => h g (List.mem_cons_of_mem _ hg)
    rw [List.findSome?_cons]
    cases ho : offer f with
    | some v =>
      rw [ho] at hf
      obtain ⟨f', hf'⟩ := hf
      exact ⟨_, lookupStack_cons_val env key tr fs hf'⟩
    | none =>
      rw [ho] at hf
      rw [lookupStack_cons_missing env key tr fs hf]
      cases hr : fs.findSome? offer with
      | some v =>
        rw [hr] at ih'
        obtain ⟨fs', h'⟩ := ih'
        exact ⟨_, by rw [h']⟩
      | none =>
        rw [hr] at ih'
        rw [ih']

theorem getitem_succ (fuel : Nat) (call : Bool) (st : St) :
    getitem env (fuel + 1) key call st =
      match lookupStack env st.stack key st.trace with
      | (.missing, tr) => (.raise (keyError key), { st with trace := tr })
      | (.raise e, tr) => (.raise e, { st with trace := tr })
      | (.val v stack', tr) =>
        if call then
          match v with
          | .fn id r => invoke env id r { st with stack := stack', trace := tr }
          | .tmpl id => callSub env fuel id { st with stack := stack', trace := tr }
          | v => (.ok v, { st with stack := stack', trace := tr })
        else (.ok v, { st with stack := stack', trace := tr }) := by
  rw [getitem]
  rfl

theorem getitem_missing (fuel : Nat) (call : Bool) (st : St) {tr : List Event}
    (h : lookupStack env st.stack key st.trace = (.missing, tr)) :
    getitem env (fuel + 1) key call st = (.raise (keyError key), { st with trace := tr }) := by
  rw [getitem_succ, h]

theorem getitem_nocall (fuel : Nat) (st : St) {v : Val} {fs' : List Frame} {tr : List Event}
    (h : lookupStack env st.stack key st.trace = (.val v fs', tr)) :
    getitem env (fuel + 1) key false st = (.ok v, { st with stack := fs', trace := tr }) := by
  rw [getitem_succ, h]
  rfl

end DTML.Render
