/-
Helper lemmas for the obligations `gen_seqvar_*` / `gen_getitem_*` of Props/C10: how the run-time library of GenSeqVar.lean
(Python's operations on the model's values) computes on the values the sequence variables meet, and which way the dispatch of
`__getitem__` goes (`getitem_split`, then `tail_attr` / `tail_special` / `tail_var`, each about any prefix).
-/
import DTML.GenSeqVar
import DTML.Lemmas.LoopVars
namespace DTML.Lemmas.SeqVar
open DTML.Render DTML.GenSeqVar

/-- a method's result as the fixed-name table of the model has it: an exception = no such variable
(`except Exception: pass` of `__getitem__`, then `raise KeyError(key)`) -/
def optOf : P → Option Val
  | .ok v => some v
  | _ => none

/-- a method's result as the namespace sees it: a KeyError = "not in this frame" -/
def toSeqRes : P → SeqRes
  | .ok v => .val v
  | .keyError _ => .missing
  | .raise e => .raise e

/-- a method's result as `first-x` / `last-x` compare it (`seqValueStrict`): a KeyError = the key is missing -/
def toSVal : P → SVal
  | .ok v => .val v
  | .keyError _ => .keyMissing
  | .raise e => .raise e

@[simp] theorem bind_ok (v : Val) (f : Val → P) : GenSeqVar.bind (.ok v) f = f v := rfl
@[simp] theorem bind_raise (e : Exc) (f : Val → P) : GenSeqVar.bind (.raise e) f = .raise e := rfl
@[simp] theorem bind_keyError (k : Text) (f : Val → P) : GenSeqVar.bind (.keyError k) f = .keyError k := rfl
@[simp] theorem asInt_int (i : Int) : asInt (.int i) = some i := rfl
theorem exc_def (c : String) : exc c = ⟨c.toList, []⟩ := rfl

theorem pyIdx_nat {α : Type} (xs : List α) (i : Nat) : pyIdx xs (i : Int) = xs[i]? := by
  simp [pyIdx]

/-- `self.items[i]` -/
theorem items_at (sv : SeqVars) (i : Nat) :
    pySubscr (selfItems sv) (.ok (.int i)) =
      (match sv.items[i]? with | some v => .ok v | none => .raise (exc "IndexError")) := by
  simp only [pySubscr, selfItems, bind_ok, subscr, asInt, pyIdx_nat]
  cases sv.items[i]? <;> rfl

theorem add_nat (c i : Nat) : pyAdd (.ok (.int c)) (.ok (.int i)) = .ok (.int ((c : Int) + i)) := by
  simp only [pyAdd, arith, bind_ok, asInt_int]

/-- `index % 2`: on an index Python's `%` is that of the natural numbers -/
theorem mod2 (i : Nat) : pyMod (.ok (.int i)) (lit 2) = .ok (.int ((i % 2 : Nat) : Int)) := by
  simp only [pyMod, arith, lit, bind_ok, asInt_int]
  rw [if_neg (by decide), Int.fmod_eq_emod_of_nonneg _ (by omega)]
  rfl

theorem sub_nat (a b : Nat) (h : b ≤ a) : pySub (.ok (.int a)) (.ok (.int b)) = .ok (.int ((a - b : Nat) : Int)) := by
  simp only [pySub, arith, bind_ok, asInt_int]
  congr 2; omega

theorem chr_int (n : Int) : pyChr (.ok (.int n)) =
    if 0 ≤ n ∧ n < (maxCode : Int) then .ok (.str [Char.ofNat n.toNat]) else .raise (exc "ValueError") := by
  simp only [pyChr, bind_ok, asInt_int]

/-- `chr(c + i)` is the model's `letterOf` as long as the code point exists -/
theorem chr_add (c i : Nat) : pyChr (pyAdd (.ok (.int c)) (.ok (.int i))) =
    if c + i < maxCode then .ok (.str (letterOf c i)) else .raise (exc "ValueError") := by
  rw [add_nat, chr_int]
  by_cases hl : c + i < maxCode
  · rw [if_pos hl, if_pos (by omega), show ((c : Int) + i).toNat = c + i by omega]; rfl
  · rw [if_neg hl, if_neg (by omega)]

theorem pyData_str (sv : SeqVars) (s : String) : pyData sv (pyStr s) = dataGet sv s.toList := rfl

theorem data_mapping (sv : SeqVars) : pyData sv (pyStr "mapping") = .ok (.bool sv.mapping) := by
  -- the fourth key `dataGet` tests: the three before it are other literals (compared as strings: `simp` decides that at once,
  -- while the kernel decodes every `"…".toList` it is made to evaluate)
  rw [pyData_str, dataGet, if_neg (fun h => mt String.toList_injective (by simp) h.1), if_neg (mt String.toList_injective (by simp)),
    if_neg (mt String.toList_injective (by simp)), if_pos rfl]

theorem data_start (sv : SeqVars) : pyData sv (pyStr "sequence-start") = .ok (.int (if sv.started then 1 else 0)) := by
  rw [pyData_str, dataGet, if_neg (fun h => mt String.toList_injective (by simp) h.1), if_pos rfl]

theorem data_end (sv : SeqVars) : pyData sv (pyStr "sequence-end") = .ok (.int (if sv.ended then 1 else 0)) := by
  rw [pyData_str, dataGet, if_neg (fun h => mt String.toList_injective (by simp) h.1), if_neg (mt String.toList_injective (by simp)),
    if_pos rfl]

theorem dataGet_index (sv : SeqVars) (hn : sv.noIndex = false) : dataGet sv "sequence-index".toList = .ok (.int sv.index) := by
  rw [dataGet, if_pos ⟨rfl, hn⟩]

theorem data_index (sv : SeqVars) (h : sv.noIndex = false) :
    pyData sv (pyStr "sequence-index") = .ok (.int sv.index) :=
  (pyData_str sv _).trans (dataGet_index sv h)

/-- the unwrapping test of `item` / `value` (`type(i) is tuple and len(i) == 2`) picks `i[1]` exactly on a 2-tuple -/
theorem unwrap_eq (sv : SeqVars) (i : Nat) (v : Val) (h : sv.items[i]? = some v) :
    pyIf (pyAnd (pyIsTuple (.ok v)) (pyEq (pyLen (.ok v)) (lit 2))) (pySubscr (.ok v) (lit 1)) (.ok v) =
      .ok (seqItem sv i) := by
  simp only [seqItem, h]
  cases v with
  | tuple xs =>
    rcases xs with _ | ⟨a, _ | ⟨b, _ | ⟨c, t⟩⟩⟩
    · rfl
    · rfl
    · rfl
    · -- three elements or more: the test `len(i) == 2` fails
      have hl : valBeq 3 (.int ((a :: b :: c :: t).length : Nat)) (.int 2) = false := by
        simp only [valBeq, List.length_cons]
        exact decide_eq_false (by omega)
      simp only [pyIf, pyAnd, pyIsTuple, pyEq, pyLen, lit, bind_ok, truthy, if_true, hl]
      rfl
  | _ => rfl

/-- `value(i, x)` once the element is fetched and unwrapped: `item[x]` under `mapping`, else `getattr(item, x)` -/
def valueOf (sv : SeqVars) (item : Val) (x : Text) : P :=
  pyIf (pyData sv (pyStr "mapping")) (pySubscr (.ok item) (.ok (.str x))) (pyGetattr (.ok item) (.ok (.str x)))

/-- `value(index, name)` once `items[index]` is fetched: IndexError past the end, else `valueOf` on the unwrapped element -/
theorem valueGen_eq_valueOf (sv : SeqVars) (i : Nat) (x : Text) :
    valueGen sv (.int i) (.str x) =
      (match sv.items[i]? with | some _ => valueOf sv (seqItem sv i) x | none => .raise (exc "IndexError")) := by
  rw [valueGen, items_at]
  cases h : sv.items[i]? with
  | none => rfl
  | some v =>
    dsimp only
    rw [pyLet, bind_ok, unwrap_eq sv i v h, pyLet, bind_ok, valueOf]

theorem valueOf_strict (sv : SeqVars) (i : Nat) (x : Text) :
    toSVal (valueOf sv (seqItem sv i) x) = seqValueStrict sv i x := by
  unfold valueOf seqValueStrict
  rw [data_mapping]
  -- by the flag and the kind of the element: only a mapping under `mapping` and an object without it look the name up
  cases hm : sv.mapping <;> cases seqItem sv i <;> first | rfl | skip
  all_goals
    simp only [pyIf, truthy, pySubscr, subscr, pyGetattr, bind_ok, toSVal, if_true, if_false, Bool.false_eq_true]
    cases List.lookup x _ <;> rfl

theorem optOf_toSVal (r : P) : optOf r = (toSVal r).toOption := by
  cases r <;> rfl

theorem rfind_none (c : Char) (s : Text) (h : c ∉ s) : rfind c s = -1 := by
  induction s with
  | nil => rfl
  | cons a t ih =>
    have h1 : ¬ a = c := fun e => h (by simp [e])
    have h2 : c ∉ t := fun e => h (by simp [e])
    simp [rfind, ih h2, h1]

theorem rfind_split (c : Char) (p m : Text) (h : c ∉ m) : rfind c (p ++ c :: m) = p.length := by
  induction p with
  | nil => simp [rfind, rfind_none c m h]
  | cons a t ih =>
    simp only [List.cons_append, rfind, ih, List.length_cons]
    have : (0 : Int) ≤ (t.length : Int) := by omega
    simp [this]

theorem slice_split (c : Char) (p m : Text) :
    sliceFrom (p ++ c :: m) ((p.length : Int) + 1) = m ∧ sliceTo (p ++ c :: m) (p.length : Int) = p := by
  -- a bound inside the text is taken as it is
  have hn (k : Nat) (hk : k ≤ p.length + 1) : normIdx (p ++ c :: m).length (k : Int) = k := by
    rw [normIdx, if_pos (by omega), List.length_append, List.length_cons]
    omega
  constructor
  · rw [sliceFrom, ← Int.natCast_succ, hn _ (Nat.le_refl _), List.drop_append, List.drop_of_length_le (by omega)]
    simp
  · rw [sliceTo, hn _ (Nat.le_succ _), List.take_left]

/-- the split of `__getitem__`: a key `p-m` (no '-' in `m`) that is not an entry of the dictionary goes on with prefix `p`, suffix `m` -/
theorem getitem_split (sv : SeqVars) (fuel : Nat) (p m : Text) (hm : '-' ∉ m)
    (hd : dataHas sv (p ++ '-' :: m) = none) :
    getitemGen sv (fuel + 1) (p ++ '-' :: m) = tailGen sv (getitemGen sv fuel) (p ++ '-' :: m) m p := by
  have hl : ¬ ((p.length : Int) < 0) := by omega
  simp only [getitemGen, hd, rfind_split '-' p m hm, hl, if_false, (slice_split '-' p m).1, (slice_split '-' p m).2]

theorem data_miss {α : Type} (sv : SeqVars) (k : Text) (h : dataHas sv k = none) (A : Val → α) (B : α) :
    (match dataGet sv k with | .ok v => A v | _ => B) = B := by
  unfold dataHas at h
  cases hg : dataGet sv k with
  | ok v => rw [hg] at h; cases h
  | keyError _ => rfl
  | raise _ => rfl

/-! after the split `tailGen` goes one of three ways (then `sequence-query`, then KeyError) -/

/-- an attribute of the class, the `-index` entry of the prefix in the dictionary: the attribute is called with that entry -/
theorem tail_attr {sv : SeqVars} {self_ : Text → P} {key m p : Text} {v : Val} (hh : hasattrSelf m = true)
    (hi : dataGet sv (p ++ "-index".toList) = .ok v) : tailGen sv self_ key m p = callAttr sv m v := by
  simp only [tailGen, hh, if_true, hi]

/-- a prefix of `special_prefixes` whose `-index` entry the dictionary does not hold is routed through that table -/
theorem tail_special {sv : SeqVars} {self_ : Text → P} {key m p : Text} (hs : isSpecialPrefix p = true)
    (hi : dataHas sv (p ++ "-index".toList) = none) :
    tailGen sv self_ key m p = callSpecial sv self_ p m key := by
  simp only [tailGen, hs, if_true]
  split
  · exact data_miss sv _ hi _ _
  · rfl

/-- a prefix `q-var` outside `special_prefixes` whose `-index` entry the dictionary does not hold:
`self.value(data[q + '-index'], suffix)`, any exception of it a KeyError -/
theorem tail_var {sv : SeqVars} {self_ : Text → P} {key m p q : Text} (hs : isSpecialPrefix p = false)
    (h4 : sliceFrom p (-4) = "-var".toList) (h5 : sliceTo p (-4) = q) (hi : dataHas sv (p ++ "-index".toList) = none)
    (hq : key ≠ "sequence-query".toList) :
    toSeqRes (tailGen sv self_ key m p) =
      ofOpt (optOf (pyCall2 (valueGen sv) (pyData sv (.ok (.str (q ++ "-index".toList)))) (.ok (.str m)))) := by
  simp only [tailGen, hs, h4, h5, if_true, hq, if_false, Bool.false_eq_true]
  generalize pyCall2 (valueGen sv) _ _ = V
  have hV : toSeqRes (match V with | .ok r => .ok r | _ => .keyError key) = ofOpt (optOf V) := by cases V <;> rfl
  split
  · exact (congrArg toSeqRes (data_miss sv _ hi _ _)).trans hV
  · exact hV

end DTML.Lemmas.SeqVar
