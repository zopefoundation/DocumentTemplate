/-
Lemmas for the obligation "the scanner of the model is the scanner of the source" (Props/C01.gen_html_scanner_*):
`GenScan.candidateGen` / `searchGen` are regenerated from `dtml_re_class.search` on every run (harness/trans_scan.py);
here they are proved equal to `Scan.candidate` / `Scan.scanHtml`.
-/
import DTML.GenScan
import DTML.Lemmas.Scanner
namespace DTML.Lemmas.ScanGen
open DTML.Scan DTML.GenScan DTML.Lemmas.Scanner DTML.Lemmas.Print

theorem slice_nat (text : Text) (a b : Nat) : pySlice text (a : Int) (b : Int) = (text.drop a).take (b - a) := by
  simp only [pySlice, Int.toNat_natCast]
  have : ((b : Int) - (a : Int)).toNat = b - a := by omega
  rw [this]

theorem slice_drop_take (text : Text) (a k : Nat) : pySlice text (a : Int) ((a : Int) + k) = (text.drop a).take k := by
  rw [← Int.natCast_add, slice_nat, Nat.add_sub_cancel_left]

theorem slice_left (text : Text) (n : Nat) (a b : Text) (h : text.drop n = a ++ b) :
    pySlice text (n : Int) ((n + a.length : Nat) : Int) = a := by
  rw [slice_nat, Nat.add_sub_cancel_left, h, List.take_left]

theorem slice_prefix (text : Text) (s k : Nat) (pat : Text) (hk : pat.length = k) :
    (pySlice text (s : Int) ((s : Int) + k) = pat) ↔ pat.isPrefixOf (text.drop s) = true := by
  rw [List.isPrefixOf_iff_prefix, List.prefix_iff_eq_take, eq_comm, slice_drop_take, hk]

theorem find_drop (text pat : Text) (n : Nat) :
    pyFind text pat (n : Int) = (match findSub pat (text.drop n) with | some k => ((n + k : Nat) : Int) | none => -1) := by
  simp only [pyFind, Int.toNat_natCast]
  cases findSub pat (text.drop n) <;> simp

theorem find_zero (t pat : Text) :
    pyFind t pat 0 = (match findSub pat t with | some k => (k : Int) | none => -1) := by
  simp only [pyFind, Int.toNat_zero, List.drop_zero]
  cases findSub pat t <;> simp

theorem slice_to (t : Text) (n : Nat) : pySlice t 0 (n : Int) = t.take n := by
  have := slice_nat t 0 n
  simpa using this

theorem slice_from (t : Text) (n : Nat) : pySlice t ((n : Int) + 1) (t.length : Int) = t.drop (n + 1) := by
  rw [← Int.natCast_one, ← Int.natCast_add, slice_nat, List.take_of_length_le]
  rw [List.length_drop]
  exact Nat.le_refl _

theorem index_eq (text : Text) (s k : Nat) : pyIndex text ((s : Int) + (k : Int)) = (text.drop (s + k)).head? := by
  rw [← Int.natCast_add, pyIndex, Int.toNat_natCast, List.head?_drop]

/-- the parity test of the source on the text walked over so far -/
theorem parity_test (s : Text) : ((countChar '"' s + 1) % 2 = 1) ↔ qwalk s true = true := by
  rw [qwalk_parity]
  rcases Nat.mod_two_eq_zero_or_one (countChar '"' s) with h | h
  · simp [h]; omega
  · simp [h]; omega

/-- the loop after it has passed `done` (the tag body up to and including the `>` at `e`; at the start its first
character): from there it finds what `findCloseAux` finds in the rest, entered with the quote state after `done` -/
theorem closeLoop_spec (text : Text) (n : Nat) : ∀ (fuel : Nat) (done todo : Text),
    text.drop n = done ++ todo → done ≠ [] → todo.length < fuel →
    closeLoop text (n : Int) fuel (((n + done.length : Nat) : Int) - 1) =
      (match findCloseAux todo done.length (qwalk done true) with
       | some k => ((n + k : Nat) : Int)
       | none => -1) := by
  intro fuel
  induction fuel with
  | zero => intro _ todo _ _ h; omega
  | succ f ih =>
    intro done todo hs hne hf
    have hrest : text.drop (n + done.length) = todo := by
      rw [← List.drop_drop, hs, List.drop_left]
    simp only [closeLoop, pyFind, Int.sub_add_cancel, Int.toNat_natCast, hrest]
    cases hfs : findSub ['>'] todo with
    | none =>
      rw [findCloseAux_none _ _ _ (findSub_single_none '>' _ hfs)]
      rfl
    | some d =>
      obtain ⟨pre, post, h1, h2, h3⟩ := findSub_single_some '>' _ d hfs
      subst h2
      have hcast : ((n + done.length : Nat) : Int) + (pre.length : Nat) = ((n + (done ++ pre).length : Nat) : Int) := by
        rw [List.length_append]; omega
      have hsl := slice_left text n (done ++ pre) ('>' :: post) (by rw [hs, h1, List.append_assoc])
      rw [h1, findCloseAux_append pre _ _ _ (gtQuoted_of_no_gt _ _ _ h3), ← qwalk_append]
      simp only [hcast, hsl, parity_test, findCloseAux, ← List.length_append]
      have hge : (done ++ pre).length ≥ 1 := List.length_pos_iff.mpr (List.append_ne_nil_of_left_ne_nil hne _)
      have hgt : ¬ ('>' : Char) = '"' := by decide
      simp only [hge, decide_true, Bool.true_and, hgt, if_false]
      cases hq : qwalk (done ++ pre) true with
      | true => rfl
      | false =>
        have := ih (done ++ pre ++ ['>']) post (by rw [hs, h1]; simp) (by simp) (by
          rw [h1, List.length_append, List.length_cons] at hf
          omega)
        have hc : ((n + ((done ++ pre).length + ['>'].length) : Nat) : Int) - 1 = ((n + (done ++ pre).length : Nat) : Int) := by
          simp only [List.length_cons, List.length_nil]; omega
        rw [qwalk_append, hq, List.length_append, hc] at this
        exact this

/-- the loop started at `e = n` finds what `findClose` finds in the text from `n` on -/
theorem closeLoop_findClose (text : Text) (n : Nat) :
    closeLoop text (n : Int) (text.length + 1) (n : Int) =
      (match findClose (text.drop n) with | some k => ((n + k : Nat) : Int) | none => -1) := by
  cases hb : text.drop n with
  | nil =>
    have : text.drop (n + 1) = [] := by rw [← List.drop_drop, hb]; rfl
    simp [closeLoop, pyFind, Int.toNat_natCast_add_one, this, findSub, findClose, findCloseAux]
  | cons c t =>
    have hlen : t.length < text.length + 1 := by
      have := congrArg List.length hb
      rw [List.length_drop, List.length_cons] at this
      omega
    have := closeLoop_spec text n (text.length + 1) [c] t hb (by simp) hlen
    rw [show (((n + [c].length : Nat) : Int) - 1) = (n : Int) from by simp] at this
    rw [this]
    rfl

/-- the shared tail: name_match … return.  The absolute indices of the source are given by what they are in terms of the
offsets `m` (marker), `skip` (what `end_match` took), `e` (closing marker) behind `s` -/
theorem tailGen_eq (text : Text) (s m skip e en : Nat) (end_ : Text) (si ni ei eni : Int)
    (hs : si = s) (hn : ni = ((s + m + skip : Nat) : Int)) (he : ei = ((s + m + e : Nat) : Int)) (hen : eni = en) :
    tailGen text si ni ei eni end_ =
    (match nameMatchLen (text.drop (s + m + skip)) with
      | none => Cand.skip
      | some l =>
        Cand.tok (m + e + en) { text := (text.drop s).take (m + e + en), isEnd := !end_.isEmpty,
                                 name := pyStrip ((text.drop (s + m + skip)).take l),
                                 args := pyStrip (((text.drop (s + m)).take e).drop (skip + l)) }) := by
  subst hs hn he hen
  unfold tailGen
  simp only [nameMatchAt, Int.toNat_natCast]
  cases nameMatchLen (text.drop (s + m + skip)) with
  | none => rfl
  | some l =>
    simp only [Option.map_some, Int.ofNat_eq_natCast, ← Int.natCast_add, slice_nat, Int.toNat_sub]
    have e1 : s + m + e + en - s = m + e + en := by
      rw [Nat.add_assoc s, Nat.add_assoc s, Nat.add_sub_cancel_left]
    have e2 : s + m + e - (s + m + skip + l) = e - (skip + l) := by
      rw [Nat.add_assoc (s + m), Nat.add_sub_add_left]
    rw [e1, e2, Nat.add_sub_cancel_left, List.drop_take, List.drop_drop, Nat.add_assoc (s + m)]

theorem take1_iff (L : Text) (c : Char) : L.take 1 = [c] ↔ L.head? = some c := by
  cases L <;> simp

theorem takeWhile_len_all (p : Char → Bool) : ∀ (l : Text), (l.takeWhile p).length = l.length ↔ l.all p = true := by
  intro l
  induction l with
  | nil => simp
  | cons x xs ih =>
    by_cases hx : p x = true
    · simp [List.takeWhile, hx, ih]
    · simp [List.takeWhile, hx]

/-- `ent_name(args)` matches all of `args` iff `args` is a non-empty run of entity-name characters -/
theorem entName_full (args : Text) :
    (match entNameLen args with
     | some ml => decide (ml = (args.length : Int))
     | none => false) = (!args.isEmpty && args.all isEntChar) := by
  cases args with
  | nil => rfl
  | cons x xs =>
    unfold entNameLen
    by_cases hx : isEntChar x = true
    · simp only [List.takeWhile_cons_of_pos hx, List.length_cons, Nat.add_one_ne_zero, if_false, List.all_cons, hx,
        Bool.true_and, List.isEmpty_cons, Bool.not_false]
      rw [Bool.eq_iff_iff, decide_eq_true_eq, Int.natCast_inj, Nat.add_right_cancel_iff, takeWhile_len_all]
    · simp only [List.takeWhile_cons_of_neg hx, List.length_nil, if_true, List.all_cons, Bool.not_eq_true _ ▸ hx,
        Bool.false_and, Bool.and_false]

theorem entName_none (args : Text) (h : entNameLen args = none) : (!args.isEmpty && args.all isEntChar) = false := by
  rw [← entName_full, h]

theorem entName_some (args : Text) (ml : Int) (h : entNameLen args = some ml) :
    (ml = (args.length : Int)) ↔ (!args.isEmpty && args.all isEntChar) = true := by
  rw [← entName_full, h]
  exact decide_eq_true_iff.symm

/-- what `candidate` does after its `<!--#` test -/
theorem branch0_eq (text : Text) (s : Nat) (h5 : "<!--#".toList.isPrefixOf (text.drop s) = true) :
    branch0Gen text (s : Int) = candidate (text.drop s) := by
  unfold candidate
  rw [if_pos h5]
  unfold branch0Gen
  have hn : ((s : Int) + 5) = ((s + 5 : Nat) : Int) := by omega
  simp only [hn, find_drop, endMatchAt, Int.toNat_natCast, List.drop_drop]
  cases findSub "-->".toList (List.drop (s + 5) text) with
  | none => rfl
  | some e =>
    rw [if_neg (Int.not_lt.mpr (Int.natCast_nonneg _))]
    cases endMatchLen (List.drop (s + 5) text) with
    | none =>
      refine (tailGen_eq text s 5 0 e 3 [] _ _ _ _ rfl rfl rfl rfl).trans ?_
      -- both sides are the same `match` under two matcher constants: closed case by case, because comparing them while the
      -- `match` is stuck makes Lean unfold `nameMatchLen` (slow)
      cases nameMatchLen (text.drop (s + 5 + 0)) <;> rfl
    | some l =>
      simp only [Option.map_some, Int.ofNat_eq_natCast, slice_drop_take]
      refine (tailGen_eq text s 5 l e 3 _ _ _ _ _ rfl (by omega) rfl rfl).trans ?_
      cases nameMatchLen (text.drop (s + 5 + l)) <;> rfl

/-- `branch1Gen` (`<dtml-`) and `branch2Gen` (`</dtml-`) are the same statements with the marker `mk` and `end_` = `''` /
`'/'`: the inner loop finds the closing `>`, the shared tail cuts name and arguments.  That is `angle` behind the marker,
which is what `candidate` is there -/
theorem branch12_eq (text : Text) (s m : Nat) (mk b end_ : Text) (hm : mk.length = m) (h : text.drop s = mk ++ b) :
    (let n := ((s : Int) + (m : Int))
     let e := closeLoop text n (text.length + 1) n
     if e < 0 then Cand.skip else tailGen text (s : Int) n e 1 end_) = angle findClose 1 (!end_.isEmpty) mk b := by
  have hn : ((s : Int) + (m : Int)) = ((s + m : Nat) : Int) := by omega
  have hb : text.drop (s + m) = b := by rw [← List.drop_drop, h, List.drop_left' hm]
  simp only [hn, closeLoop_findClose, hb, angle]
  cases findClose b with
  | none => rfl
  | some e =>
    rw [if_neg (Int.not_lt.mpr (Int.natCast_nonneg _))]
    refine (tailGen_eq text s m 0 e 1 end_ _ _ _ _ rfl rfl rfl rfl).trans ?_
    simp only [Nat.add_zero, Nat.zero_add, hb, h, hm]
    rfl

/-- what `candidate` does when none of the three angle-bracket markers stands at `s` -/
theorem branch3_eq (text : Text) (s : Nat) (h5 : ¬ "<!--#".toList.isPrefixOf (text.drop s) = true)
    (h6 : ¬ "<dtml-".toList.isPrefixOf (text.drop s) = true) (h7 : ¬ "</dtml-".toList.isPrefixOf (text.drop s) = true) :
    branch3Gen text (s : Int) = candidate (text.drop s) := by
  unfold candidate
  rw [if_neg h5, if_neg h6, if_neg h7]
  have pe : (pySlice text (s : Int) ((s : Int) + 5) = "&dtml".toList) ↔ "&dtml".toList.isPrefixOf (text.drop s) = true :=
    slice_prefix text s 5 _ (by decide +kernel)
  have h56 : ∀ c : Char, (pySlice text ((s : Int) + 5) ((s : Int) + 6) = [c]) ↔ ((text.drop s).drop 5).head? = some c := by
    intro c
    rw [show pySlice text ((s : Int) + 5) ((s : Int) + 6) = (text.drop (s + 5)).take 1 from slice_drop_take text (s + 5) 1,
      take1_iff, List.drop_drop]
  have hguard : (pySlice text (s : Int) ((s : Int) + 5) = "&dtml".toList ∧
        (pySlice text ((s : Int) + 5) ((s : Int) + 6) = ".".toList ∨
         pySlice text ((s : Int) + 5) ((s : Int) + 6) = "-".toList)) ↔
      ("&dtml".toList.isPrefixOf (text.drop s) &&
        (((text.drop s).drop 5).head? = some '.' || ((text.drop s).drop 5).head? = some '-')) = true := by
    simp only [Bool.and_eq_true, Bool.or_eq_true, decide_eq_true_eq]
    exact and_congr pe (or_congr (h56 '.') (h56 '-'))
  unfold branch3Gen
  refine ite_congr (propext hguard) (fun _ => ?_) (fun _ => rfl)
  have hn : ((s : Int) + 6) = ((s + 6 : Nat) : Int) := by omega
  simp only [hn, find_drop, List.drop_drop, show ";".toList = [';'] from rfl]
  cases findSub [';'] (text.drop (s + 6)) with
  | none => exact if_neg (by decide : ¬ (-1 : Int) ≥ 0)
  | some k =>
    -- the arguments, the tag's text and its length in terms of the text from `s` on
    have hargs : pySlice text ((s + 6 : Nat) : Int) ((s + 6 + k : Nat) : Int) = (text.drop (s + 6)).take k := by
      rw [slice_nat, Nat.add_sub_cancel_left]
    have hk : ((s + 6 + k : Nat) : Int) + 1 = ((s + (6 + k + 1) : Nat) : Int) := by omega
    have htxt : pySlice text (s : Int) (((s + 6 + k : Nat) : Int) + 1) = (text.drop s).take (6 + k + 1) := by
      rw [hk, slice_nat, Nat.add_sub_cancel_left]
    have hlen : (((s + 6 + k : Nat) : Int) + 1 - (s : Int)).toNat = 6 + k + 1 := by
      rw [hk, Int.toNat_sub, Nat.add_sub_cancel_left]
    simp only [hargs, htxt, hlen]
    rw [if_pos (Int.natCast_nonneg _), show ((s : Int) + 5) = (s : Int) + ((5 : Nat) : Int) from rfl, index_eq,
      List.head?_drop]
    -- what is left speaks of the arguments alone
    generalize (text.drop (s + 6)).take k = args
    cases hent : entNameLen args with
    | none => exact (if_neg (by rw [entName_none args hent]; decide)).symm
    | some ml =>
      dsimp only
      refine ite_congr (propext (entName_some args ml hent)) (fun _ => ?_) (fun _ => rfl)
      refine ite_congr rfl (fun _ => rfl) (fun _ => ?_)
      rw [find_zero, show "-".toList = ['-'] from rfl]
      cases findSub ['-'] args with
      | none => exact if_neg (fun h => absurd h.1 (by decide))
      | some nn =>
        dsimp only
        have hlt : ((nn : Int) ≥ 0 ∧ (nn : Int) < (args.length : Int) - 1) ↔ nn < args.length - 1 := by omega
        refine ite_congr (propext hlt) (fun _ => ?_) (fun _ => rfl)
        rw [slice_from, slice_to]
        rfl

/-- **the translated loop body is the model's `candidate`** -/
theorem candidateGen_eq (text : Text) (s : Nat) : candidateGen text (s : Int) = candidate (text.drop s) := by
  have p5 : (pySlice text (s : Int) ((s : Int) + 5) = "<!--#".toList) ↔ "<!--#".toList.isPrefixOf (text.drop s) = true :=
    slice_prefix text s 5 _ (by decide +kernel)
  have p6 : (pySlice text (s : Int) ((s : Int) + 6) = "<dtml-".toList) ↔ "<dtml-".toList.isPrefixOf (text.drop s) = true :=
    slice_prefix text s 6 _ (by decide +kernel)
  have p7 : (pySlice text (s : Int) ((s : Int) + 7) = "</dtml-".toList) ↔ "</dtml-".toList.isPrefixOf (text.drop s) = true :=
    slice_prefix text s 7 _ (by decide +kernel)
  unfold candidateGen
  by_cases h5 : "<!--#".toList.isPrefixOf (text.drop s) = true
  · rw [if_pos (p5.mpr h5)]
    exact branch0_eq text s h5
  · rw [if_neg (fun h => h5 (p5.mp h))]
    by_cases h6 : "<dtml-".toList.isPrefixOf (text.drop s) = true
    · obtain ⟨b, hb⟩ := List.isPrefixOf_iff_prefix.mp h6
      rw [if_pos (p6.mpr h6), ← hb, candidate_dtml]
      exact branch12_eq text s 6 _ b [] (by decide +kernel) hb.symm
    · rw [if_neg (fun h => h6 (p6.mp h))]
      by_cases h7 : "</dtml-".toList.isPrefixOf (text.drop s) = true
      · obtain ⟨b, hb⟩ := List.isPrefixOf_iff_prefix.mp h7
        rw [if_pos (p7.mpr h7), ← hb, candidate_dtml_end]
        exact branch12_eq text s 7 _ b "/".toList (by decide +kernel) hb.symm
      · rw [if_neg (fun h => h7 (p7.mp h))]
        exact branch3_eq text s h5 h6 h7

/-- **the outer loop of `search` is `scanHtml`**: with enough fuel, `searchGen text fuel start` finds the tag `scanHtml` finds
in the text from `start` on, at the offset `start +` the length of the literal before it -/
theorem searchGen_eq (text : Text) : ∀ (fuel start : Nat), text.length - start < fuel →
    searchGen text fuel start =
      (scanHtml (text.drop start)).map (fun r => (start + r.1.length, r.2.1)) := by
  intro fuel
  induction fuel with
  | zero => intro start h; omega
  | succ f ih =>
    intro start hf
    show _ = (scan .html _).map _
    simp only [searchGen, startSearchAt]
    cases hfi : (text.drop start).findIdx? (fun c => c = '<' || c = '&') with
    | none =>
      rw [← List.append_nil (text.drop start), scan_plain _ [] (List.findIdx?_eq_none_iff.mp hfi), scan_nil]
      rfl
    | some i =>
      obtain ⟨pre, c, post, h1, h2, h3, h4⟩ := findIdx?_split _ _ i hfi
      have hdrop : text.drop (i + start) = c :: post := by
        rw [Nat.add_comm, ← List.drop_drop, h1, ← h2, List.drop_left]
      simp only [Option.map_some]
      rw [candidateGen_eq, hdrop, h1, scan_plain pre _ h4, scan_cons]
      simp only [tagAt, h3, if_true]
      cases hcand : candidate (c :: post) with
      | tok len tk =>
        simp only [Option.map_some, List.append_nil]
        rw [h2, Nat.add_comm]
      | skip =>
        have hd2 : text.drop (i + start + 1) = post := by
          rw [← List.drop_drop, hdrop]
          rfl
        have hlen : text.length - (i + start + 1) < f := by
          rw [← List.length_drop, h1, List.length_append, List.length_cons] at hf
          rw [← List.length_drop, hd2]
          omega
        rw [show searchGen text f _ = (scan .html _).map _ from ih (i + start + 1) hlen, hd2]
        cases scan .html post with
        | none => rfl
        | some r =>
          simp only [Option.map_some, List.length_append, List.length_cons]
          exact congrArg (fun n => some (n, r.2.1)) (by omega)

end DTML.Lemmas.ScanGen
