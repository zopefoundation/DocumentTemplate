/- Lemmas for the obligations `gen_int_param_*` / `gen_in_params_*` / `gen_in_previous_*` / `gen_in_next_*` of Props/C11:
   `int_param` and the prologue of `InClass.renderwb` as translated from the source (GenIn.lean) against the model's
   `resolveNames` - one call (`resolve_step`), then the five calls in order (`paramsRun`, `params_run`, with `namesOf` /
   `litFill` / `paramCost` saying which parameters, values and fuel the model starts from) - the definitions the statements
   about the `previous` / `next` branches are written with (`singleRender`, `popFrames`), and `seqHas_stop` for the test
   `sequence[end]` (also used by Props/C10).  The window and batch-variable obligations of Props/C11 need none of this and
   are proved there. -/
import DTML.Render
import DTML.GenIn
namespace DTML.Lemmas.InBatchGen
open DTML.Render DTML.GenIn

/-- what `opt()` can compute with: an int or a bool (anything else: TypeError, the model's flag) -/
def valPInt : Val → Option Int
  | .int i => some i
  | .bool b => some (if b then 1 else 0)
  | _ => none

/-- `int()` of a string gives a number or fails: it never hands the string on -/
theorem paramInt_str_ne_bad (s : Text) : paramInt (.str s) ≠ .bad := by
  intro h
  unfold paramInt at h
  split at h
  · cases h
  · cases h
  -- a numeral with or without a sign: a number, or ValueError
  · split at h <;> cases h
  · split at h <;> cases h
  -- the last alternative is for what is not a string
  next hstr => exact hstr s rfl

theorem int_param_lit (env : Env) (fuel : Nat) (params : Text → Option Param) (name : Text) (d : Val) (st : St) (i : Int)
    (h : params name = some (.lit i)) : intParamGen env fuel params name d st = (.ok (.int i), st) := by
  simp [intParamGen, h, pvTruthy, pvInt]

/-- a parameter that is not given: both defaults `renderwb` passes (`0` and `'0'`) read as 0 -/
theorem int_param_absent (env : Env) (fuel : Nat) (params : Text → Option Param) (name : Text) (d : Val) (st : St)
    (h : params name = none) (hd : d = .int 0 ∨ d = .str "0".toList) :
    intParamGen env fuel params name d st = (.ok (.int 0), st) := by
  rcases hd with rfl | rfl
  · simp [intParamGen, h, pvTruthy, truthy, pvVal]
  · simp [intParamGen, h, pvTruthy, truthy, pvInt, valInt, paramInt, digitsVal]

/-- a parameter given by name: `md[name]`, a string converted, anything else handed on -/
theorem int_param_name (env : Env) (fuel : Nat) (params : Text → Option Param) (name n : Text) (d : Val) (st : St)
    (h : params name = some (.name n)) (hn : n ≠ []) :
    intParamGen env fuel params name d st =
      match getitem env fuel n true st with
      | (.ok v, st') =>
        (match paramInt v with
         | .ok i => (.ok (match v with | .str _ => .int i | v => v), st')
         | .bad => (.ok v, st')
         | .valueError => (.raise intError, st'))
      | (.raise e, st') => (.raise e, st')
      | (.ret v, st') => (.ret v, st')
      | (.oom, st') => (.oom, st') := by
  cases n with
  | nil => exact absurd rfl hn
  | cons c cs =>
    simp only [intParamGen, h, pvTruthy, pvInt, pvGetitem, List.isEmpty_cons, Bool.not_false, if_true]
    generalize getitem env fuel (c :: cs) true st = r
    rcases r with ⟨r, st'⟩
    cases r with
    | ok v =>
      cases v with
      | str s =>
        simp only [typeOf, if_true]
        unfold valInt
        have hb := paramInt_str_ne_bad s
        generalize paramInt (.str s) = q at hb
        cases q with
        | ok i => rfl
        | bad => exact absurd rfl hb
        | valueError => rfl
      | _ => simp only [typeOf, paramInt] <;> simp
    | _ => simp only []

/-- one step of the model's `resolveNames` is the translated `int_param` (what `opt()` cannot compute with sets the
flag; for `start` every failure is swallowed and 1 taken: `except Exception: start = 1` around the call) -/
theorem resolve_step (env : Env) (fuel : Nat) (params : Text → Option Param) (p n : Text) (d : Val)
    (rest : List (Text × Text)) (bp : BatchP) (bad : Bool) (st : St)
    (h : params p = some (.name n)) (hn : n ≠ []) :
    resolveNames env (fuel + 1) ((p, n) :: rest) bp bad st =
      match intParamGen env fuel params p d st with
      | (.ok v, st') =>
        (match valPInt v with
         | some i => resolveNames env fuel rest (setParam bp p i) bad st'
         | none => resolveNames env fuel rest bp true st')
      | (.raise e, st') =>
        if p == "start".toList then resolveNames env fuel rest (setParam bp p 1) bad st' else (.raise e, st')
      | (.ret v, st') =>
        if p == "start".toList then resolveNames env fuel rest (setParam bp p 1) bad st' else (.ret v, st')
      | (.oom, st') => (.oom, st') := by
  rw [int_param_name env fuel params p n d st h hn]
  generalize hK : resolveNames env fuel rest = K
  unfold resolveNames
  simp only [hK]
  generalize getitem env fuel n true st = r
  rcases r with ⟨r, st'⟩
  cases r with
  | ok v =>
    cases v with
    | str s =>
      simp only []
      have hb := paramInt_str_ne_bad s
      generalize paramInt (.str s) = q at hb
      cases q with
      | ok i => rfl
      | bad => exact absurd rfl hb
      | valueError => rfl
    | _ => simp only [paramInt, valPInt]
  | _ => simp only []

/-- `sequence[end]` succeeds = there are elements after the window -/
theorem seqHas_stop (sv : SeqVars) (w : BWin) : seqHas sv (w.stop : Int) = moreAfter sv w := by
  have e4 : (-(sv.items.length : Int) ≤ (w.stop : Int) ∧ (w.stop : Int) < (sv.items.length : Int)) ↔
      w.stop < sv.items.length := by omega
  simp only [seqHas, moreAfter, e4]

/-- the rendering of a `previous` / `next` tag once the branch has decided: the section with the variables it stored, or
the else section (nothing without one) with the variables as they were; `svN`: the variables before the branch -/
def singleRender (env : Env) (fuel : Nat) (body : List Blk) (els : Option (List Blk)) (cache : List Frame) (svN : SeqVars)
    (r : Option SeqVars) (st : St) : Res Piece × St :=
  match r with
  | some sv => renderJoined env fuel body { st with stack := (Frame.seq sv :: cache) ++ st.stack }
  | none =>
    (match els with
     | some e => renderJoined env fuel e { st with stack := (Frame.seq svN :: cache) ++ st.stack }
     | none => (.ok (.text []), { st with stack := (Frame.seq svN :: cache) ++ st.stack }))

/-- the `finally` of `renderwb`: the variables (and the cache) are popped -/
def popFrames (k : Nat) (res : Res Piece × St) : Res Piece × St := (res.1, { res.2 with stack := res.2.stack.drop k })

/-- the list the model resolves: the parameters given by the name of a variable, in the order of the calls -/
def namesOf (params : Text → Option Param) : List (String × Val × Option Int) → List (Text × Text)
  | [] => []
  | c :: cs =>
    match params c.1.toList with
    | some (.name n) => (c.1.toList, n) :: namesOf params cs
    | _ => namesOf params cs

theorem namesOf_eq_filterMap (params : Text → Option Param) (cs : List (String × Val × Option Int)) :
    namesOf params cs = (cs.map (·.1)).filterMap (fun k =>
      match params k.toList with
      | some (.name n) => some (k.toList, n)
      | _ => none) := by
  induction cs with
  | nil => rfl
  | cons c cs ih =>
    rw [namesOf, List.map_cons, List.filterMap_cons, ← ih]
    cases params c.1.toList with
    | none => rfl
    | some q => cases q <;> rfl

/-- the parameters the model starts from: numerals as they stand, 0 for a parameter that is not given (the parameters
given by name are left as they are) -/
def litFill (params : Text → Option Param) : List (String × Val × Option Int) → BatchP → BatchP
  | [], bp => bp
  | c :: cs, bp =>
    match params c.1.toList with
    | some (.name _) => litFill params cs bp
    | some (.lit i) => litFill params cs (setParam bp c.1.toList i)
    | none => litFill params cs (setParam bp c.1.toList 0)

/-- what a call costs in the model's fuel: one unit when the parameter is given by name (the lookup `md[v]`), nothing
when it is a numeral or not given -/
def paramCost (params : Text → Option Param) (p : Text) : Nat :=
  match params p with
  | some (.name _) => 1
  | _ => 0

/-- the calls run one after the other as `renderwb` does: each call is the translated `int_param` with the key and the
default of the call; its value is stored when `opt()` can compute with it (else the TypeError flag is set); an exception
is swallowed where the source has a handler around the call (the constant of the handler is stored) and propagates
elsewhere.  Fuel: a call gets what is left after paying `paramCost`, and hands exactly that on to the next call; one unit
must be left at the end. -/
def paramsRun (env : Env) (params : Text → Option Param) :
    List (String × Val × Option Int) → Nat → BatchP → Bool → St → Res (BatchP × Bool) × St
  | [], fuel, bp, bad, st => if fuel = 0 then (.oom, st) else (.ok (bp, bad), st)
  | c :: cs, fuel, bp, bad, st =>
    if fuel < paramCost params c.1.toList then (.oom, st)
    else
      match intParamGen env (fuel - paramCost params c.1.toList) params c.1.toList c.2.1 st with
      | (.ok v, st') =>
        (match valPInt v with
         | some i => paramsRun env params cs (fuel - paramCost params c.1.toList) (setParam bp c.1.toList i) bad st'
         | none => paramsRun env params cs (fuel - paramCost params c.1.toList) bp true st')
      | (.raise e, st') =>
        (match c.2.2 with
         | some i => paramsRun env params cs (fuel - paramCost params c.1.toList) (setParam bp c.1.toList i) bad st'
         | none => (.raise e, st'))
      | (.ret v, st') =>
        (match c.2.2 with
         | some i => paramsRun env params cs (fuel - paramCost params c.1.toList) (setParam bp c.1.toList i) bad st'
         | none => (.ret v, st'))
      | (.oom, st') => (.oom, st')

theorem setParam_fields (bp : BatchP) (p : Text) (i : Int) :
    setParam bp p i =
      { bp with start := if p = "start".toList then i else bp.start,
                end_ := if p = "end".toList then i else bp.end_,
                size := if p = "size".toList then i else bp.size,
                overlap := if p = "overlap".toList then i else bp.overlap,
                orphan := if p = "orphan".toList then i else bp.orphan } := by
  unfold setParam
  by_cases h1 : p = "start".toList
  · simp only [h1, String.toList_inj, String.reduceEq, if_true, if_false]
  by_cases h2 : p = "end".toList
  · simp only [h2, String.toList_inj, String.reduceEq, if_true, if_false]
  by_cases h3 : p = "size".toList
  · simp only [h3, String.toList_inj, String.reduceEq, if_true, if_false]
  by_cases h4 : p = "overlap".toList
  · simp only [h4, String.toList_inj, String.reduceEq, if_true, if_false]
  by_cases h5 : p = "orphan".toList
  · simp only [h5, String.toList_inj, String.reduceEq, if_true, if_false]
  · simp only [h1, h2, h3, h4, h5, if_false]

theorem setParam_comm (bp : BatchP) (p q : Text) (i j : Int) (h : p ≠ q) :
    setParam (setParam bp q j) p i = setParam (setParam bp p i) q j := by
  -- field by field: of the two tests `p = k`, `q = k` at most one holds, so they can be made in either order
  have swap : ∀ (k : Text) (x : Int),
      (if p = k then i else if q = k then j else x) = (if q = k then j else if p = k then i else x) := by
    intro k x
    by_cases hp : p = k
    · rw [if_pos hp, if_neg (fun hq => h (hp.trans hq.symm)), if_pos hp]
    · rw [if_neg hp, if_neg hp]
  simp only [setParam_fields]
  congr 1 <;> exact swap _ _

theorem litFill_setParam (params : Text → Option Param) (cs : List (String × Val × Option Int)) (p : Text) (i : Int)
    (h : ∀ c ∈ cs, c.1.toList ≠ p) (bp : BatchP) :
    litFill params cs (setParam bp p i) = setParam (litFill params cs bp) p i := by
  induction cs generalizing bp with
  | nil => rfl
  | cons c cs ih =>
    have hc : c.1.toList ≠ p := h c (List.mem_cons_self ..)
    have ih' := ih (fun c' hc' => h c' (List.mem_cons_of_mem _ hc'))
    unfold litFill
    cases hq : params c.1.toList with
    | none =>
      simp only []
      rw [setParam_comm _ _ _ _ _ hc, ih']
    | some q =>
      cases q with
      | lit k =>
        simp only []
        rw [setParam_comm _ _ _ _ _ hc, ih']
      | name n => exact ih' bp

/-- **the calls composed are one run of `resolveNames`**: over any list of calls with distinct keys whose defaults are
`0` / `'0'` and whose handler is the one of `start` (`inBatchParamCalls` is such a list: `params_calls_ok`), running the
translated `int_param` calls one after the other is `resolveNames` on the parameters given by name (in the order of the
calls), started from the numerals; with the same fuel: every parameter given by name costs one unit, the others none -/
theorem params_run (env : Env) (params : Text → Option Param) (cs : List (String × Val × Option Int))
    (hk : cs.Pairwise (fun a b => b.1.toList ≠ a.1.toList))
    (hd : ∀ c ∈ cs, c.2.1 = .int 0 ∨ c.2.1 = .str "0".toList)
    (hh : ∀ c ∈ cs, c.2.2 = if c.1.toList == "start".toList then some 1 else none)
    (hn : ∀ c ∈ cs, ∀ n, params c.1.toList = some (.name n) → n ≠ [])
    (fuel : Nat) (bp : BatchP) (bad : Bool) (st : St) :
    paramsRun env params cs fuel bp bad st =
      resolveNames env fuel (namesOf params cs) (litFill params cs bp) bad st := by
  induction cs generalizing fuel bp bad st with
  | nil => cases fuel <;> rfl
  | cons c cs ih =>
    have hk' := (List.pairwise_cons.mp hk)
    have ih' := ih hk'.2 (fun c' hc' => hd c' (List.mem_cons_of_mem _ hc')) (fun c' hc' => hh c' (List.mem_cons_of_mem _ hc'))
      (fun c' hc' => hn c' (List.mem_cons_of_mem _ hc'))
    have hdc := hd c (List.mem_cons_self ..)
    have hhc := hh c (List.mem_cons_self ..)
    have hnc := hn c (List.mem_cons_self ..)
    unfold paramsRun namesOf litFill
    cases hq : params c.1.toList with
    | none =>
      simp only [paramCost, hq, Nat.not_lt_zero, if_false, Nat.sub_zero, int_param_absent env fuel params _ _ st hq hdc, valPInt]
      exact ih' fuel _ bad st
    | some q =>
      cases q with
      | lit k =>
        simp only [paramCost, hq, Nat.not_lt_zero, if_false, Nat.sub_zero, int_param_lit env fuel params _ _ st k hq, valPInt]
        exact ih' fuel _ bad st
      | name n =>
        simp only [paramCost, hq]
        cases fuel with
        | zero => exact if_pos Nat.zero_lt_one
        | succ f =>
          rw [if_neg (show ¬ f + 1 < 1 by omega), Nat.add_sub_cancel,
            resolve_step env f params c.1.toList n c.2.1 _ _ bad st hq (hnc n hq)]
          have hfill := fun i => litFill_setParam params cs c.1.toList i hk'.1
          generalize intParamGen env f params c.1.toList c.2.1 st = r
          rcases r with ⟨r, st'⟩
          cases r with
          | ok v =>
            simp only []
            cases valPInt v with
            | some i =>
              simp only []
              rw [ih', hfill]
            | none =>
              simp only []
              rw [ih']
          | oom => rfl
          | _ =>
            -- an exception and a `dtml-return` alike: swallowed under the handler of `start`, handed up elsewhere
            simp only [hhc]
            by_cases hs : (c.1.toList == "start".toList) = true
            · simp only [hs, if_true]
              rw [ih', hfill]
            · simp only [hs]
              rfl

/-- the calls of `renderwb` satisfy what `params_run` asks of a list of calls -/
theorem params_calls_ok :
    inBatchParamCalls.Pairwise (fun a b => b.1.toList ≠ a.1.toList) ∧
    (∀ c ∈ inBatchParamCalls, c.2.1 = .int 0 ∨ c.2.1 = .str "0".toList) ∧
    (∀ c ∈ inBatchParamCalls, c.2.2 = if c.1.toList == "start".toList then some 1 else none) := by
  refine ⟨by decide +kernel, ?_, by decide +kernel⟩
  -- the defaults, call by call: `0` for the first four, `'0'` for `orphan`
  simp only [inBatchParamCalls, List.forall_mem_cons]
  exact ⟨.inl trivial, .inl trivial, .inl trivial, .inl trivial, .inr trivial, nofun⟩

end DTML.Lemmas.InBatchGen
