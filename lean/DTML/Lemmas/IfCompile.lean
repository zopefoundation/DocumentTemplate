/-
How dtml-if / dtml-unless are COMPILED: the hand-written model (from the sections of a block to the conditional of the
interpreter model, `Blk.cond` / `Blk.unless_`) and the lemmas for the obligations of Props/C09
(`gen_if_compile_is_model`, `gen_unless_compile_is_model`): `GenIfCompile.ifInitGen` / `unlessInitGen` are regenerated from
`DT_If.If.__init__` / `Unless.__init__` on every run (harness/trans_ifc.py) and store exactly the cells (`IBlock.encodeI`)
of the model's conditional - or end in the same ParseError.  The last part shows that this compile model ends in an
error exactly when `Parse.checkBlock`, the parser model's account of the same constructors, does, with the same error
(`if_parts_err_eq`, `unless_parts_err_eq`; for `*_compile_error_iff_checkBlock` of Props/C09).
-/
import DTML.GenIfCompile
import DTML.Lemmas.IBlock
namespace DTML.Lemmas.IfCompile
open DTML.Parse DTML.Render DTML.GenRender DTML.GenIfCompile DTML.Lemmas.IBlock

/-- the condition a tag compiles to: the name, or the compiled expression (`ev` = `Eval(source).eval`) -/
def condSrc (ev : Text → Expr) (t : NameOrExpr) : Src := if t.isExpr then .expr (ev t.name) else .name t.name

/-- the name or expression of an `if` / `elif` / `unless` tag, from its argument text -/
def tagCond (table : Table) (args : Text) : Except PErr NameOrExpr :=
  match parseParams table args with
  | .error e => .error e
  | .ok p =>
    match nameParam p true with
    | .error e => .error e
    | .ok (t, _) => .ok t

/-- the sections between the first and a trailing else: every one is an `elif` with its own condition -/
def elifConds (ev : Text → Expr) : List (Section Blk) → Except PErr (List (Src × List Blk))
  | [] => .ok []
  | s :: rest =>
    if s.tname == "else" then .error ⟨"more than one else tag for a single if tag"⟩
    else
      match tagCond (tbl Gen.ifParams 2) s.args with
      | .error e => .error e
      | .ok t =>
        match elifConds ev rest with
        | .error e => .error e
        | .ok cs => .ok ((condSrc ev t, s.body) :: cs)

/-- a last section called `else` is split off (it may repeat the name of the if tag, nothing else); what is left and the
else part -/
def splitElse (secs : List (Section Blk)) (name : Text) : Except PErr (List (Section Blk) × Option (List Blk)) :=
  match secs.getLast? with
  | none => .error ⟨"IndexError"⟩
  | some l =>
    if l.tname == "else" then
      match parseParams (tbl Gen.ifParams 1) l.args with
      | .error e => .error e
      | .ok ep =>
        if ep.isEmpty then .ok (secs.dropLast, some l.body)
        else
          match nameParam ep true with
          | .error e => .error e
          | .ok (et, _) =>
            if et.name != name then .error ⟨"name in else does not match if"⟩ else .ok (secs.dropLast, some l.body)
    else .ok (secs, none)

/-- dtml-if: the conditions with their bodies, in order, and the else part - the arguments of `Blk.cond` -/
def ifParts (ev : Text → Expr) (secs : List (Section Blk)) : Except PErr (List (Src × List Blk) × Option (List Blk)) :=
  match secs with
  | [] => .error ⟨"IndexError"⟩
  | s0 :: _ =>
    match tagCond (tbl Gen.ifParams 0) s0.args with
    | .error e => .error e
    | .ok t =>
      match splitElse secs t.name with
      | .error e => .error e
      | .ok (mid, els) =>
        match elifConds ev (mid.drop 1) with
        | .error e => .error e
        | .ok cs => .ok ((condSrc ev t, s0.body) :: cs, els)

/-- the block of the interpreter model a dtml-if compiles to -/
def ifBlock (ev : Text → Expr) (secs : List (Section Blk)) : Except PErr Blk :=
  match ifParts ev secs with
  | .error e => .error e
  | .ok (conds, els) => .ok (.cond conds els)

/-- dtml-unless (and the stand-alone dtml-else): the condition and the body - the arguments of `Blk.unless_` -/
def unlessParts (ev : Text → Expr) (secs : List (Section Blk)) : Except PErr (Src × List Blk) :=
  match secs with
  | [] => .error ⟨"IndexError"⟩
  | s0 :: _ =>
    match tagCond (tbl Gen.unlessParams 0) s0.args with
    | .error e => .error e
    | .ok t => .ok (condSrc ev t, s0.body)

def unlessBlock (ev : Text → Expr) (secs : List (Section Blk)) : Except PErr Blk :=
  match unlessParts ev secs with
  | .error e => .error e
  | .ok (src, body) => .ok (.unless_ src body)

/-- the compiled form of a conditional: the code letter of `render_blocks_` and the cells -/
def formOf (conds : List (Src × List Blk)) (els : Option (List Blk)) : Form := ("i", encodeI conds els)

theorem pyGet_zero {α : Type} (l : List α) : pyGet l 0 = l.head? := by
  simp [pyGet, List.head?_eq_getElem?]

theorem pyGet_neg_one {α : Type} (l : List α) : pyGet l (-1) = l.getLast? := by
  cases l with
  | nil => simp [pyGet]
  | cons a t =>
    have h1 : ¬ ((0 : Int) ≤ -1) := by omega
    have h2 : (-1 : Int).natAbs = 1 := rfl
    simp only [pyGet, if_neg h1, h2, List.getLast?_eq_getElem?]
    simp

theorem pyDel_neg_one {α : Type} (l : List α) : pyDel l (-1) = l.dropLast := by
  have h1 : ¬ ((0 : Int) ≤ -1) := by omega
  have h2 : (-1 : Int).natAbs = 1 := rfl
  simp only [pyDel, if_neg h1, h2, List.eraseIdx_length_sub_one]

theorem tbl_if0 : tbl Gen.ifParams 0 = [("name", "''"), ("expr", "''")] := rfl
theorem tbl_if1 : tbl Gen.ifParams 1 = [("name", "''")] := rfl
theorem tbl_if2 : tbl Gen.ifParams 2 = [("name", "''"), ("expr", "''")] := rfl
theorem tbl_unless0 : tbl Gen.unlessParams 0 = [("name", "''"), ("expr", "''")] := rfl

/-- `if expr is None: cond = name else: cond = expr.eval` after `name, expr = name_param(…)` is the model's condition -/
theorem cond_of_nameParam (ev : Text → Expr) (t : NameOrExpr) :
    (match (if t.isExpr then some t.name else none : Option Text) with
     | none => Src.name t.name
     | some x => Src.expr (ev x)) = condSrc ev t := by
  unfold condSrc
  cases t.isExpr <;> rfl

theorem unlessInit_eq (ev : Text → Expr) (secs : List (Section Blk)) :
    unlessInitGen ev secs =
      (match unlessParts ev secs with
       | .error e => .error e
       | .ok (src, body) => .ok (formOf [(src, [])] (some body))) := by
  cases secs with
  | nil => rfl
  | cons s0 rest =>
    simp only [unlessInitGen, pyGet_zero, List.head?_cons, unlessParts, tagCond, tbl_unless0, nameParamGen]
    cases parseParams [("name", "''"), ("expr", "''")] s0.args with
    | error e => rfl
    | ok p =>
      simp only
      cases nameParam p true with
      | error e => rfl
      | ok r =>
        obtain ⟨t, es⟩ := r
        simp only [ok, formOf, encodeI, List.flatMap_cons, List.flatMap_nil, List.append_nil, List.cons_append,
          List.nil_append]
        rw [← cond_of_nameParam ev t]
        cases t.isExpr <;> rfl

/-- the loop over the sections after the first: the cells of the elif conditions are appended in order -/
theorem ifLoop_eq (ev : Text → Expr) : ∀ (l : List (Section Blk)) (acc : List ICell),
    ifLoop1Gen ev l acc =
      (match elifConds ev l with
       | .error e => .error e
       | .ok cs => .ok (acc ++ encodeI cs none)) := by
  intro l
  induction l with
  | nil => intro acc; simp [ifLoop1Gen, elifConds, encodeI, ok]
  | cons s rest ih =>
    intro acc
    simp only [ifLoop1Gen, ifStmt2Gen, elifConds, tagCond, tbl_if2, nameParamGen, ok, fail]
    cases s.tname == "else" with
    | true => rfl
    | false =>
      cases parseParams [("name", "''"), ("expr", "''")] s.args with
      | error e => rfl
      | ok p =>
        simp only
        cases nameParam p true with
        | error e => rfl
        | ok r =>
          obtain ⟨t, es⟩ := r
          simp only [ih]
          have hc := cond_of_nameParam ev t
          cases elifConds ev rest with
          | error e => rfl
          | ok cs =>
            rw [← hc]
            cases t.isExpr <;> simp [encodeI]

/-- the statement `if blocks[-1][0] == 'else': … else: elses = None` -/
theorem ifElse_eq (ev : Text → Expr) (secs : List (Section Blk)) (name : Text) :
    ifStmt3Gen ev secs name = splitElse secs name := by
  simp only [ifStmt3Gen, ifStmt4Gen, ifStmt5Gen, splitElse, pyGet_neg_one, pyDel_neg_one, tbl_if1, nameParamGen, ok, fail]
  cases secs.getLast? with
  | none => rfl
  | some l =>
    simp only
    cases l.tname == "else" with
    | false => rfl
    | true =>
      cases parseParams [("name", "''")] l.args with
      | error e => rfl
      | ok ep =>
        simp only
        cases ep.isEmpty with
        | true => rfl
        | false =>
          cases nameParam ep true with
          | error e => rfl
          | ok r =>
            obtain ⟨et, es⟩ := r
            simp only
            cases et.name != name <;> rfl

theorem ifInit_eq (ev : Text → Expr) (secs : List (Section Blk)) :
    ifInitGen ev secs =
      (match ifParts ev secs with
       | .error e => .error e
       | .ok (conds, els) => .ok (formOf conds els)) := by
  cases secs with
  | nil => rfl
  | cons s0 rest =>
    simp only [ifInitGen, pyGet_zero, List.head?_cons, ifParts, tagCond, tbl_if0, nameParamGen, ifElse_eq, ifLoop_eq]
    cases parseParams [("name", "''"), ("expr", "''")] s0.args with
    | error e => rfl
    | ok p =>
      simp only
      cases nameParam p true with
      | error e => rfl
      | ok r =>
        obtain ⟨t, es⟩ := r
        simp only
        cases splitElse (s0 :: rest) t.name with
        | error e => rfl
        | ok r2 =>
          obtain ⟨mid, els⟩ := r2
          simp only
          cases elifConds ev (List.drop 1 mid) with
          | error e => rfl
          | ok cs =>
            simp only [ok, formOf]
            rw [← cond_of_nameParam ev t]
            cases els <;> cases t.isExpr <;> simp [encodeI]

/-! ### the errors of the compile model are the errors of the parser model's `checkBlock`

`Parse.checkBlock` is what the C06 theorems and the parser correspondence validate; `ifParts` / `unlessParts` are what the
translated constructors are proved equal to.  For a list of sections that has a first section, not called `else` (the only
lists the parser builds), the two end in a ParseError on the same inputs, with the same text. -/

/-- the ParseError a constructor ends in, if it does -/
def errOf {α : Type} : Except PErr α → Option PErr
  | .error e => some e
  | .ok _ => none

/-- what the parser model's `checkBlock` is given: the tag name and the argument text of every section -/
abbrev sigOf (secs : List (Section Blk)) : List (String × Text) := secs.map fun s => (s.tname, s.args)

theorem elif_loop_err (ev : Text → Expr) (f : String × Text → List ExprUse → Except PErr (ForInStep (List ExprUse)))
    (hf : ∀ x s, f x s = if x.fst = "else" then .error ⟨"more than one else tag for a single if tag"⟩ else
        match parseParams (tbl Gen.ifParams 2) x.snd with
        | .error e => .error e
        | .ok ep =>
          match nameParam ep true with
          | .error e => .error e
          | .ok r => .ok (.yield (s ++ r.snd))) :
    ∀ (l : List (Section Blk)) (es : List ExprUse), errOf (forIn (sigOf l) es f) = errOf (elifConds ev l) := by
  intro l
  induction l with
  | nil => intro es; rfl
  | cons s rest ih =>
    intro es
    simp only [sigOf, List.map_cons, List.forIn_cons, hf, elifConds, tagCond]
    by_cases h : s.tname = "else"
    · simp [h, errOf, bind, Except.bind]
    · simp only [h, if_false, beq_iff_eq]
      cases parseParams (tbl Gen.ifParams 2) s.args with
      | error e => rfl
      | ok ep =>
        simp only
        cases nameParam ep true with
        | error e => rfl
        | ok r =>
          simp only [bind, Except.bind]
          have := ih (es ++ r.snd)
          rw [this]
          cases elifConds ev rest <;> rfl


/-- computations that fail alike come out together: both with the same error, or both with a result -/
theorem errOf_eq_cases {α β : Type} {x : Except PErr α} {y : Except PErr β} (h : errOf x = errOf y) :
    (∃ e, x = .error e ∧ y = .error e) ∨ ∃ a b, x = .ok a ∧ y = .ok b := by
  cases x <;> cases y <;> simp_all [errOf]

/-- the same three steps on both sides: the attributes of the if tag; a trailing else; every section in the middle -/
theorem if_parts_err_eq (ev : Text → Expr) (s0 : Section Blk) (rest : List (Section Blk)) (h0 : s0.tname ≠ "else") :
    errOf (ifParts ev (s0 :: rest)) = errOf (checkBlock .if_ (sigOf (s0 :: rest))) := by
  simp only [checkBlock, ifParts, tagCond, sigOf, List.map_cons, List.headD_cons, List.drop_succ_cons, List.drop_zero,
    bind, Except.bind]
  cases parseParams (tbl Gen.ifParams 0) s0.args with
  | error e => rfl
  | ok p =>
    simp only
    cases nameParam p true with
    | error e => rfl
    | ok r =>
      obtain ⟨t, es⟩ := r
      simp only
      -- `T`: what `checkBlock` makes of a trailing else (`checkBlock.match_1` is the name Lean gives its `match` on the last
      -- section).  It fails as `splitElse` does, or both leave the same sections `M` in the middle
      generalize hT : checkBlock.match_1 _ _ _ _ = T
      have trail : (∃ e, splitElse (s0 :: rest) t.name = .error e ∧ T = .error e) ∨
          ∃ M els es', splitElse (s0 :: rest) t.name = .ok (s0 :: M, els) ∧ T = .ok (sigOf M, es') := by
        subst hT
        simp only [splitElse, List.getLast?_cons, List.getLast?_map]
        cases hl : rest.getLast? with
        | none =>
          cases List.getLast?_eq_none_iff.mp hl
          exact .inr ⟨[], none, es, by simp [h0], rfl⟩
        | some l =>
          have hne : rest ≠ [] := by
            rintro rfl
            cases hl
          simp only [Option.getD_some, Option.map_some, List.dropLast_cons_of_ne_nil hne]
          obtain ⟨tn, a, b⟩ := l
          by_cases hle : tn = "else"
          · subst hle
            simp only [beq_self_eq_true, if_true, ← List.map_dropLast]
            cases parseParams (tbl Gen.ifParams 1) a with
            | error e => exact .inl ⟨e, rfl, rfl⟩
            | ok ep =>
              simp only
              cases ep.isEmpty with
              | true => exact .inr ⟨rest.dropLast, some b, es, rfl, rfl⟩
              | false =>
                cases nameParam ep true with
                | error e => exact .inl ⟨e, rfl, rfl⟩
                | ok r =>
                  obtain ⟨et, ees⟩ := r
                  simp only
                  cases et.name != t.name with
                  | true => exact .inl ⟨_, rfl, rfl⟩
                  | false => exact .inr ⟨rest.dropLast, some b, es ++ ees, rfl, rfl⟩
          · -- the last section is no else: the `match` of `checkBlock` takes its second arm
            simp only [hle, beq_iff_eq, if_false, Option.some.injEq, Prod.mk.injEq, false_and, false_imp_iff, implies_true]
            exact .inr ⟨rest, none, es, rfl, rfl⟩
      obtain ⟨e, h1, h2⟩ | ⟨M, els, es', h1, h2⟩ := trail
      · rw [h1, h2]; rfl
      · rw [h1, h2]
        simp only [List.drop_succ_cons, List.drop_zero]
        -- the loop over `M`
        generalize hF : (forIn (sigOf M) es' _ : Except PErr (List ExprUse)) = F
        have h : errOf F = errOf (elifConds ev M) := by
          rw [← hF]
          refine elif_loop_err ev _ (fun x s => ?_) M es'
          by_cases hx : x.fst = "else"
          · simp only [hx, if_true]; rfl
          · cases parseParams (tbl Gen.ifParams 2) x.snd with
            | error e => rfl
            | ok ep =>
              simp only
              cases nameParam ep true <;> rfl
        obtain ⟨e, h3, h4⟩ | ⟨x, cs, h3, h4⟩ := errOf_eq_cases h
        · rw [h3, h4]; rfl
        · rw [h3, h4]; rfl

theorem errOf_eq_some {α : Type} (x : Except PErr α) (e : PErr) : errOf x = some e ↔ x = .error e := by
  cases x <;> simp [errOf]

/-- dtml-unless (and the stand-alone dtml-else): one `parse_params`, one `name_param` on both sides -/
theorem unless_parts_err_eq (ev : Text → Expr) (s0 : Section Blk) (rest : List (Section Blk)) :
    errOf (unlessParts ev (s0 :: rest)) = errOf (checkBlock .unless (sigOf (s0 :: rest))) := by
  simp only [checkBlock, unlessParts, tagCond, sigOf, List.map_cons, List.headD_cons]
  cases parseParams (tbl Gen.unlessParams 0) s0.args with
  | error e => rfl
  | ok p =>
    simp only [bind, Except.bind]
    cases nameParam p true with
    | error e => rfl
    | ok r => rfl

end DTML.Lemmas.IfCompile
