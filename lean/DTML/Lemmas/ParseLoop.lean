/-
The main loop of `String.parse` (DT_String.py) as a hand-written model - one round `parseStep`, the loop `parseLoop` -
and what it does with the text: the rounds cut the text into (literal, tag, what parse_block consumed) segments that
tile it.  Props/C01 proves the translation of the source (GenParseLoop.lean) equal to this model.
-/
import DTML.GenParseLoop
namespace DTML.Lemmas.ParseLoop
open DTML.Scan DTML.GenParseLoop

variable {M A C R E : Type}

/-- `if s: result.append(s)` -/
def appendLit (result : List (Item R)) (s : Text) : List (Item R) :=
  if !s.isEmpty then result ++ [.lit s] else result

/-- one round of `while mo:` up to the next search -/
def parseStep (P : Params M A C R E) (text : Text) (start : Nat) (result : List (Item R)) (mo : M) :
    Except E (Nat × List (Item R)) :=
  let l := P.moStart mo
  match P.parseTag mo with
  | .error m => .error (P.errorAt m text l)
  | .ok (tag, args, command, _) =>
    let result := appendLit result (pySlice text start l)
    let start := l + tag.length
    if P.hasBlockContinuations command then
      match P.parseBlock text start result tag l args command with
      | .error e => .error e
      | .ok (start, result) => .ok (start, result)
    else
      match (if P.isVar command then P.callVar command args mo else P.call command args) with
      | .error m => .error (P.errorIn m tag text l)
      | .ok r => .ok (start, result ++ [.node (if P.hasSimpleForm r then P.simpleForm r else r)])

/-- the loop and the statements after it -/
def parseLoop (P : Params M A C R E) (text : Text) : Nat → Nat → List (Item R) → Option M → Except E (List (Item R))
  | 0, start, result, _ => .ok (appendLit result (text.drop start))
  | _ + 1, start, result, none => .ok (appendLit result (text.drop start))
  | fuel + 1, start, result, some mo =>
    match parseStep P text start result mo with
    | .error e => .error e
    | .ok (start, result) => parseLoop P text fuel start result (P.search text start)

/-- the items a literal contributes: none when it is empty -/
def litItems (l : Text) : List (Item R) := if l.isEmpty then [] else [.lit l]

theorem appendLit_eq (result : List (Item R)) (s : Text) : appendLit result s = result ++ litItems s := by
  unfold appendLit litItems
  cases s.isEmpty <;> simp

/-- one round as the theorem sees it -/
structure Seg (R : Type) where
  /-- the literal before the tag -/
  lit : Text
  /-- the tag's own text -/
  tag : Text
  /-- what `parse_block` consumed after the opening tag (`[]` for a simple tag) -/
  body : Text
  /-- what was appended to `result` for the tag -/
  items : List (Item R)
  /-- a simple tag -/
  simple : Bool

/-- what the rounds append: per segment the literal (if not empty) and the tag's items; then the rest (if not empty) -/
def segItems (segs : List (Seg R)) (tail : Text) : List (Item R) :=
  segs.flatMap (fun s => litItems s.lit ++ s.items) ++ litItems tail

/-- the text the segments stand for -/
def segText (segs : List (Seg R)) (tail : Text) : Text :=
  segs.flatMap (fun s => s.lit ++ s.tag ++ s.body) ++ tail

/-- a simple tag consumes nothing but its own text and contributes exactly one compiled item -/
def SimpleOk (s : Seg R) : Prop := s.simple = true → s.body = [] ∧ ∃ r, s.items = [.node r]

/-- what `gen_parse_literals_verbatim` (Props/C01) asks of the parameters: matches lie at or after `start`; the tag text
`_parseTag` hands back is what stands at the match; `parse_block` only appends to `result` and does not go backwards -/
structure Sound (P : Params M A C R E) (text : Text) : Prop where
  search_ge : ∀ start mo, P.search text start = some mo → start ≤ P.moStart mo
  tag_at : ∀ start mo tag a c co, P.search text start = some mo → P.parseTag mo = .ok (tag, a, c, co) →
    tag <+: text.drop (P.moStart mo)
  block_mono : ∀ start result tag l a c start' result',
    P.parseBlock text start result tag l a c = .ok (start', result') → start ≤ start' ∧ ∃ items, result' = result ++ items

theorem drop_split (text : Text) (a b : Nat) (h : a ≤ b) : text.drop a = pySlice text a b ++ text.drop b := by
  have : text.drop b = (text.drop a).drop (b - a) := by
    rw [List.drop_drop, Nat.add_sub_cancel' h]
  rw [this, pySlice, List.take_append_drop]

theorem drop_tag (text tag : Text) (l : Nat) (h : tag <+: text.drop l) :
    text.drop l = tag ++ text.drop (l + tag.length) := by
  rw [← List.drop_drop]
  exact (List.prefix_iff_eq_append.mp h).symm

theorem parseStep_seg (P : Params M A C R E) (text : Text) (hP : Sound P text) (start : Nat) (result : List (Item R))
    (mo : M) (hfound : P.search text start = some mo) (start' : Nat) (result' : List (Item R))
    (h : parseStep P text start result mo = .ok (start', result')) :
    ∃ s : Seg R, SimpleOk s ∧ result' = result ++ (litItems s.lit ++ s.items) ∧
      text.drop start = (s.lit ++ s.tag ++ s.body) ++ text.drop start' := by
  unfold parseStep at h
  simp only at h
  split at h
  next => cases h
  next tag args command co htag =>
    have h1 := drop_split text start (P.moStart mo) (hP.search_ge _ _ hfound)
    have h2 := drop_tag text tag _ (hP.tag_at _ _ _ _ _ _ hfound htag)
    split at h
    · split at h
      next => cases h
      next s' r' hb =>
        cases h
        obtain ⟨hle, items, hit⟩ := hP.block_mono _ _ _ _ _ _ _ _ hb
        have h3 := drop_split text _ _ hle
        refine ⟨⟨pySlice text start (P.moStart mo), tag, pySlice text (P.moStart mo + tag.length) start', items, false⟩,
          ?_, ?_, ?_⟩
        · intro hs; cases hs
        · simp only [hit, appendLit_eq, List.append_assoc]
        · simp only [List.append_assoc]
          rw [← h3, ← h2, ← h1]
    · split at h
      next => cases h
      next r hr =>
        cases h
        refine ⟨⟨pySlice text start (P.moStart mo), tag, [], [.node (if P.hasSimpleForm r then P.simpleForm r else r)],
          true⟩, ?_, ?_, ?_⟩
        · intro _; exact ⟨rfl, _, rfl⟩
        · simp only [appendLit_eq, List.append_assoc]
        · simp only [List.append_assoc, List.nil_append]
          rw [← h2, ← h1]

/-- **the rounds tile the text**: whatever the fuel, a run of the loop that ends without a ParseError has appended,
per round, the literal between the end of the tag before and the start of this one (never an empty one) and the
tag's items, then the rest of the text (if any); literals, tag texts and block bodies in order are the text from
`start` on -/
theorem parseLoop_segments (P : Params M A C R E) (text : Text) (hP : Sound P text) :
    ∀ (fuel start : Nat) (result out : List (Item R)),
      parseLoop P text fuel start result (P.search text start) = .ok out →
      ∃ (segs : List (Seg R)) (tail : Text), (∀ s ∈ segs, SimpleOk s) ∧
        out = result ++ segItems segs tail ∧ segText segs tail = text.drop start := by
  intro fuel
  induction fuel with
  | zero =>
    intro start result out h
    cases h
    exact ⟨[], text.drop start, by simp, by simp [appendLit_eq, segItems], by simp [segText]⟩
  | succ n ih =>
    intro start result out h
    cases hm : P.search text start with
    | none =>
      rw [hm] at h
      cases h
      exact ⟨[], text.drop start, by simp, by simp [appendLit_eq, segItems], by simp [segText]⟩
    | some m =>
      rw [hm, parseLoop] at h
      split at h
      next => cases h
      next start' result' hstep =>
        obtain ⟨s, hs, hres, htext⟩ := parseStep_seg P text hP start result m hm start' result' hstep
        obtain ⟨segs, tail, hall, hout, hrest⟩ := ih start' result' out h
        refine ⟨s :: segs, tail, List.forall_mem_cons.mpr ⟨hs, hall⟩, ?_, ?_⟩
        · rw [hout, hres]
          simp only [segItems, List.flatMap_cons, List.append_assoc]
        · rw [htext, ← hrest]
          simp only [segText, List.flatMap_cons, List.append_assoc]

end DTML.Lemmas.ParseLoop
