/-
Lemmas about the hand-written model of the dtml-tree cookie codec (DTML/TreeCodec.lean), for Props/C20.  The decoder is
characterised without the encoder (`a2b_quad`, `a2b_append`, `dec_chunks`, `decodeStr_unchunked`), the encoder without
the decoder (`b2a_append`, `enc_chunks`, `encodeStr_unchunked`, `b2a_strip`); `a2b_b2a` joins them.  The chunk lists
(`chunksAux_nil`, `chunksAux_cons`) are also what the loops of the translated codec build (Lemmas/TreeCodecGen).
-/
import DTML.TreeCodec
namespace DTML.Lemmas.TreeCodec
open DTML.TreeCodec

theorem chunksAux_nil {α : Type} (n cf : Nat) : chunksAux n cf ([] : List α) = [] := by
  cases cf <;> rfl

theorem chunksAux_cons {α : Type} (n cf : Nat) (l : List α) (h : l ≠ []) :
    chunksAux n (cf + 1) l = l.take n :: chunksAux n cf (l.drop n) := by
  simp only [chunksAux, List.isEmpty_iff, h, if_false]

/-! ### decoding results in a row

What the decoder makes of a text cut into parts is the concatenation of what it makes of the parts, `none` if one of
them fails.  `cat` is that concatenation, a monoid with unit `some []`; `optConcat` folds it over a list. -/

variable {α : Type}

def cat (o p : Option (List α)) : Option (List α) := o.bind fun a => p.map (a ++ ·)

theorem cat_assoc (o p q : Option (List α)) : cat (cat o p) q = cat o (cat p q) := by
  cases o <;> cases p <;> cases q <;> simp [cat]

theorem cat_nil (o : Option (List α)) : cat o (some []) = o := by
  cases o <;> simp [cat]

theorem nil_cat (o : Option (List α)) : cat (some []) o = o := by
  cases o <;> rfl

theorem optConcat_cons (o : Option Bytes) (t : List (Option Bytes)) : optConcat (o :: t) = cat o (optConcat t) := by
  cases o <;> rfl

theorem optConcat_append (l m : List (Option Bytes)) : optConcat (l ++ m) = cat (optConcat l) (optConcat m) := by
  induction l with
  | nil => exact (nil_cat _).symm
  | cons o t ih => rw [List.cons_append, optConcat_cons, optConcat_cons, ih, cat_assoc]

/-- what is read off the table, in one evaluation of it -/
theorem alphabet_facts : (∀ i < 64, decChar (encChar i) = some i) ∧ '=' ∉ alphabet ∧ '-' ∉ alphabet := by
  decide +kernel

theorem dec_enc {i : Nat} (h : i < 64) : decChar (encChar i) = some i := alphabet_facts.1 i h

theorem dec_enc_mod (n : Nat) : decChar (encChar (n % 64)) = some (n % 64) := dec_enc (Nat.mod_lt _ (by decide))

/-- whatever the index: `encChar` answers the default `A` or a character of the alphabet, which has neither the padding
nor the `-` that stands in for `+` -/
theorem enc_clean (i : Nat) : encChar i ≠ '=' ∧ encChar i ≠ '-' := by
  unfold encChar
  rw [List.getD_eq_getElem?_getD]
  cases h : alphabet[i]? with
  | none => decide
  | some c =>
    have hmem : c ∈ alphabet := List.mem_of_getElem? h
    exact ⟨fun e => alphabet_facts.2.1 (e ▸ hmem), fun e => alphabet_facts.2.2 (e ▸ hmem)⟩

/- `a2b.eq_1` … `a2b.eq_4` are the equations Lean generates for the clauses of `a2b`, in the order in which they are
written: `[]`; `[c0, c1, '=', '=']`; `[c0, c1, c2, '=']` (given `c2 ≠ '='`); a whole group in front of `t` (given that
neither of the two matches).  The proofs below rewrite with them directly: an equation that writes the `match` out
again is slow to check, because its `match` has to be unified with the one inside `a2b`. -/

theorem a2b_quad (c0 c1 c2 c3 : Char) (t : List Char) (h3 : c3 ≠ '=') :
    a2b (c0 :: c1 :: c2 :: c3 :: t) = cat (a2b [c0, c1, c2, c3]) (a2b t) := by
  rw [a2b.eq_4 _ _ _ _ t (fun _ h _ => h3 h) (fun h _ => h3 h),
    a2b.eq_4 _ _ _ _ [] (fun _ h _ => h3 h) (fun h _ => h3 h), a2b.eq_1]
  -- the first character outside the alphabet makes both sides `none`
  cases decChar c0 with | none => rfl | some _ =>
  cases decChar c1 with | none => rfl | some _ =>
  cases decChar c2 with | none => rfl | some _ =>
  cases decChar c3 with | none => rfl | some _ =>
  cases a2b t <;> rfl

/-- a clean prefix of whole groups is decoded on its own: the decoder may be fed chunk by chunk -/
theorem a2b_append : ∀ (q y : List Char), q.length % 4 = 0 → '=' ∉ q → a2b (q ++ y) = cat (a2b q) (a2b y)
  | [], y, _, _ => (nil_cat _).symm
  | c0 :: c1 :: c2 :: c3 :: q, y, h, hq => by
    simp only [List.mem_cons, not_or] at hq
    have h3 : c3 ≠ '=' := fun e => hq.2.2.2.1 e.symm
    simp only [List.cons_append]
    rw [a2b_quad _ _ _ _ (q ++ y) h3, a2b_quad _ _ _ _ q h3, a2b_append q y (by simp at h; omega) hq.2.2.2.2,
      cat_assoc]

theorem dec_chunks (n : Nat) (hn : n % 4 = 0) (hpos : 0 < n) :
    ∀ (fuel : Nat) (q : List Char), q.length ≤ fuel → q.length % 4 = 0 → '=' ∉ q →
      optConcat ((chunksAux n fuel q).map a2b) = a2b q := by
  intro fuel
  induction fuel with
  | zero =>
    intro q h _ _
    rw [List.eq_nil_of_length_eq_zero (Nat.le_zero.mp h)]
    rfl
  | succ f ih =>
    intro q h hk hq
    by_cases he : q = []
    · subst he; rfl
    · have hlen : 0 < q.length := List.length_pos_iff.mpr he
      rw [chunksAux_cons _ _ _ he, List.map_cons, optConcat_cons,
        ih (q.drop n) (by simp; omega) (by simp; omega) (fun h => hq (List.mem_of_mem_drop h)),
        ← a2b_append _ _ (by simp; omega) (fun h => hq (List.mem_of_mem_take h)), List.take_append_drop]

theorem pad_append_full (q t : List Char) (hq : q.length % 4 = 0) : pad (q ++ t) = q ++ pad t := by
  unfold pad
  have : (q ++ t).length % 4 = t.length % 4 := by rw [List.length_append, Nat.add_mod, hq, Nat.zero_add, Nat.mod_mod]
  rw [this]
  split <;> simp

/-- on a text without padding the decoder's 76-character chunks are invisible -/
theorem decodeStr_unchunked (cs : List Char) (h : '=' ∉ cs.map tminus) :
    decodeStr cs = a2b (pad (cs.map tminus)) := by
  unfold decodeStr
  generalize cs.map tminus = s at h
  simp only
  split
  · generalize hm : s.length / 76 = m
    have hl : (s.take (m * 76)).length % 4 = 0 := by simp; omega
    have hq : '=' ∉ s.take (m * 76) := fun e => h (List.mem_of_mem_take e)
    have hs : pad s = s.take (m * 76) ++ pad (s.drop (m * 76)) := by
      rw [← pad_append_full _ _ hl, List.take_append_drop]
    have hd : optConcat ((chunks 76 (s.take (m * 76))).map a2b) = a2b (s.take (m * 76)) :=
      dec_chunks 76 rfl (by decide) _ _ (Nat.le_refl _) hl hq
    rw [hs, a2b_append _ _ hl hq]
    split
    next he =>
      rw [hd, List.isEmpty_iff.mp he]
      exact (cat_nil _).symm
    next =>
      rw [optConcat_append, hd, optConcat_cons]
      exact congrArg _ (cat_nil _)
  · rfl

theorem b2a_append : ∀ (x y : Bytes), x.length % 3 = 0 → b2a (x ++ y) = b2a x ++ b2a y
  | [], y, _ => by simp [b2a]
  | a :: b :: c :: t, y, h => by
    simp only [List.cons_append, b2a]
    rw [b2a_append t y (by simp at h; omega)]

theorem enc_chunks (n : Nat) (hn : n % 3 = 0) (hpos : 0 < n) :
    ∀ (fuel : Nat) (l : Bytes), l.length ≤ fuel → (chunksAux n fuel l).flatMap b2a = b2a l := by
  intro fuel
  induction fuel with
  | zero =>
    intro l h
    rw [List.eq_nil_of_length_eq_zero (Nat.le_zero.mp h)]
    rfl
  | succ f ih =>
    intro l h
    by_cases he : l = []
    · subst he; rfl
    · have hlen : 0 < l.length := List.length_pos_iff.mpr he
      rw [chunksAux_cons _ _ _ he, List.flatMap_cons, ih (l.drop n) (by simp; omega)]
      by_cases hfull : n ≤ l.length
      · rw [← b2a_append _ _ (by simp; omega), List.take_append_drop]
      · rw [List.take_of_length_le (by omega), List.drop_of_length_le (by omega)]
        simp [b2a]

theorem encodeStr_unchunked (bs : Bytes) : encodeStr bs = ((b2a bs).takeWhile (· != '=')).map tplus := by
  unfold encodeStr
  split
  · rw [chunks, enc_chunks 57 rfl (by decide) _ _ (Nat.le_refl _)]
  · rfl

theorem strip_enc (i : Nat) (t : List Char) :
    (encChar i :: t).takeWhile (· != '=') = encChar i :: t.takeWhile (· != '=') := by
  simp [(enc_clean i).1]

theorem b2a_strip : ∀ (x : Bytes), pad ((b2a x).takeWhile (· != '=')) = b2a x ∧ '-' ∉ b2a x := by
  have hm : ∀ i, ¬ '-' = encChar i := fun i => (enc_clean i).2.symm
  intro x
  induction x using b2a.induct with
  | case1 a b c t ih =>
    rw [b2a, strip_enc, strip_enc, strip_enc, strip_enc]
    exact ⟨(pad_append_full [_, _, _, _] _ (by simp)).trans (congrArg _ ih.1), by simp [hm, ih.2]⟩
  | case2 a b =>
    rw [b2a, strip_enc, strip_enc, strip_enc]
    exact ⟨rfl, by simp [hm]⟩
  | case3 a =>
    rw [b2a, strip_enc, strip_enc]
    exact ⟨rfl, by simp [hm]⟩
  | case4 => exact ⟨rfl, by simp [b2a]⟩

theorem tminus_tplus (c : Char) (h : c ≠ '-') : tminus (tplus c) = c := by
  unfold tplus tminus
  by_cases hp : c = '+'
  · subst hp; decide
  · simp [hp, h]

theorem map_tminus_tplus (l : List Char) (h : '-' ∉ l) : (l.map tplus).map tminus = l := by
  rw [List.map_map]
  exact (List.map_congr_left fun c hc => tminus_tplus c fun e => h (e ▸ hc)).trans (List.map_id l)

theorem sextets_sum (n : Nat) : n / 262144 * 262144 + n / 4096 % 64 * 4096 + n / 64 % 64 * 64 + n % 64 = n := by omega

theorem a2b_enc (n : Nat) (h : n < 262144 * 64) :
    a2b [encChar (n / 262144), encChar (n / 4096 % 64), encChar (n / 64 % 64), encChar (n % 64)] =
      some [n / 65536, n / 256 % 256, n % 256] := by
  have h3 := (enc_clean (n % 64)).1
  rw [a2b.eq_4 _ _ _ _ [] (fun _ h _ => h3 h) (fun h _ => h3 h), a2b.eq_1, dec_enc (Nat.div_lt_of_lt_mul h),
    dec_enc_mod, dec_enc_mod, dec_enc_mod]
  simp only [sextets_sum]

theorem a2b_b2a : ∀ (x : Bytes), Valid x → a2b (b2a x) = some x := by
  intro x
  induction x using b2a.induct with
  | case1 a b c t ih =>
    intro hv
    simp only [Valid, List.forall_mem_cons] at hv
    -- the group is one number: its base-64 digits are written and read back, its base-256 digits are the bytes
    rw [b2a, a2b_quad _ _ _ _ _ (enc_clean _).1, ih hv.2.2.2, a2b_enc _ (by omega)]
    simp only [cat, Option.bind_some, Option.map_some, List.cons_append, List.nil_append, Option.some.injEq,
      List.cons.injEq, and_true]
    omega
  | case2 a b =>
    intro hv
    simp only [Valid, List.forall_mem_cons] at hv
    -- the fourth digit of this number is 0: the three that are written make it up
    have hn := sextets_sum (a * 65536 + b * 256)
    rw [show (a * 65536 + b * 256) % 64 = 0 by omega, Nat.add_zero] at hn
    rw [b2a, a2b.eq_3 _ _ _ (enc_clean _).1, dec_enc (Nat.div_lt_of_lt_mul (by omega)), dec_enc_mod, dec_enc_mod]
    simp only [hn, Option.some.injEq, List.cons.injEq, and_true]
    omega
  | case3 a =>
    intro hv
    simp only [Valid, List.forall_mem_cons] at hv
    rw [b2a, a2b.eq_2, dec_enc (Nat.div_lt_of_lt_mul (by omega)), dec_enc_mod]
    simp only [Option.some.injEq, List.cons.injEq, and_true]
    omega
  | case4 => intro _; rfl

end DTML.Lemmas.TreeCodec
