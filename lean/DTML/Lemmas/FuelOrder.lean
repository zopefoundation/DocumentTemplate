/-
"Out of fuel, or the same outcome": the order in which an evaluation with more fuel stands to one with less, and how it
goes through the sequencing combinators of Lemmas/Interp.  That every function of the interpreter respects it is proved in
Lemmas/Invariant.lean (one induction, together with what the functions do to the namespace) and read off in Lemmas/Fuel.lean.
-/
import DTML.Lemmas.Interp
namespace DTML.Lemmas.Fuel
open DTML.Render

/-- `a` is out of fuel, or `a` and `b` are the same outcome -/
def Le {α : Type} (a b : Res α × St) : Prop := a.1 = .oom ∨ a = b

theorem Le.refl {α : Type} (a : Res α × St) : Le a a := Or.inr rfl
theorem Le.oom {α : Type} (s : St) (b : Res α × St) : Le ((.oom : Res α), s) b := Or.inl rfl

/-- the same for `raiseClass`, whose "out of fuel" is `none` -/
def LeO (a b : Option Text × St) : Prop := a.1 = none ∨ a = b

structure Mono (env : Env) (n : Nat) : Prop where
  getitem : ∀ key call st, Le (getitem env n key call st) (getitem env (n + 1) key call st)
  callSub : ∀ id st, Le (callSub env n id st) (callSub env (n + 1) id st)
  evalExpr : ∀ e st, Le (evalExpr env n e st) (evalExpr env (n + 1) e st)
  evalSrc : ∀ s st, Le (evalSrc env n s st) (evalSrc env (n + 1) s st)
  fetchVar : ∀ s hq null st, Le (fetchVar env n s hq null st) (fetchVar env (n + 1) s hq null st)
  renderBlocks : ∀ bs st, Le (renderBlocks env n bs st) (renderBlocks env (n + 1) bs st)
  withFrame : ∀ f body st, Le (withFrame env n f body st) (withFrame env (n + 1) f body st)
  renderJoined : ∀ body st, Le (renderJoined env n body st) (renderJoined env (n + 1) body st)
  framed : ∀ f body st, Le (framed env n f body st) (framed env (n + 1) f body st)
  condLoop : ∀ cs els st, Le (condLoop env n cs els st) (condLoop env (n + 1) cs els st)
  inIter : ∀ sv o body i st, Le (inIter env n sv o body i st) (inIter env (n + 1) sv o body i st)
  inLoop : ∀ sv o body i st, Le (inLoop env n sv o body i st) (inLoop env (n + 1) sv o body i st)
  inLoopB : ∀ sv o w body i st, Le (inLoopB env n sv o w body i st) (inLoopB env (n + 1) sv o w body i st)
  inBatch : ∀ sv o bp w body els cache st, Le (inBatch env n sv o bp w body els cache st) (inBatch env (n + 1) sv o bp w body els cache st)
  resolveNames : ∀ names bp bad st, Le (resolveNames env n names bp bad st) (resolveNames env (n + 1) names bp bad st)
  evalSortKey : ∀ x st, Le (evalSortKey env n x st) (evalSortKey env (n + 1) x st)
  evalReverse : ∀ x st, Le (evalReverse env n x st) (evalReverse env (n + 1) x st)
  raiseClass : ∀ cls e st, LeO (raiseClass env n cls e st) (raiseClass env (n + 1) cls e st)
  renderBlk : ∀ b st, Le (renderBlk env n b st) (renderBlk env (n + 1) b st)
  letLoop : ∀ binds body st, Le (letLoop env n binds body st) (letLoop env (n + 1) binds body st)

/-! `Le` goes through the sequencing combinators: whatever is done with an outcome, "out of fuel" stays what it is,
and any other outcome is the same on both sides. -/

theorem Le.always {α β : Type} {x y : Res α × St} {k k' : Res α → St → Res β × St} (h : Le x y)
    (hk : ∀ r s, Le (k r s) (k' r s)) : Le (always x k) (always y k') := by
  obtain ⟨r, s⟩ := x
  rcases h with h | rfl
  · cases h
    exact Le.oom _ _
  · cases r with
    | oom => exact Le.oom _ _
    | _ => exact hk _ s

theorem Le.andThen {α β : Type} {x y : Res α × St} {k k' : α → St → Res β × St} (h : Le x y)
    (hk : ∀ a s, Le (k a s) (k' a s)) : Le (andThen x k) (andThen y k') := by
  obtain ⟨r, s⟩ := x
  rcases h with h | rfl
  · cases h
    exact Le.oom _ _
  · cases r with
    | ok a => exact hk a s
    | _ => exact Le.refl _

/-- a function of the outcome that hands "out of fuel" on -/
theorem Le.comp {α β : Type} {x y : Res α × St} (f : Res α × St → Res β × St) (hf : ∀ s, (f (.oom, s)).1 = .oom)
    (h : Le x y) : Le (f x) (f y) := by
  obtain ⟨r, s⟩ := x
  rcases h with h | rfl
  · cases h
    exact Or.inl (hf s)
  · exact Le.refl _

theorem joinRes_oom (env : Env) (st : St) : (joinRes env (.oom : Res (List Piece)) st).1 = .oom := rfl

/-- `LeO` read off `Le` of the outcomes that `classOf` makes of the two sides -/
theorem LeO.of_classOf {a b : Option Text × St} (h : Le (classOf a) (classOf b)) : LeO a b := by
  obtain ⟨c, s⟩ := a
  cases c with
  | none => exact Or.inl rfl
  | some c =>
    obtain ⟨d, t⟩ := b
    rcases h with h | h
    · cases h
    · cases d <;> cases h
      exact Or.inr rfl

end DTML.Lemmas.Fuel
