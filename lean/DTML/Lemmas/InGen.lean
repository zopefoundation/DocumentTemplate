/- Lemmas for the obligations `gen_in_*` of Props/C10: `InClass.renderwob` / `renderwb` as translated from the source
   (GenIn.lean) against the interpreter.  A pass through the body of either loop is brought into one closed form (`pass`: the
   element fetched through the item guard, refused and skipped or rendered by `inIter`, the variables handed on), which the
   loop continues as the interpreter's loops do (`Render.loopItem`); then the prologue and epilogue of the tag (the sort and
   reverse steps, the pushes, pops and join around the loop, the source by name or by expression). -/
import DTML.Render
import DTML.GenIn
import DTML.Lemmas.Interp
import DTML.Lemmas.LoopVars
namespace DTML.Lemmas.InGen
open DTML.Render DTML.GenIn

theorem renderPushed_eq (env : Env) (fuel : Nat) (fr : Frame) (body : List Blk) (st : St) :
    renderPushed env fuel fr body 1 st = framed env fuel fr body st := by
  match fuel with
  | 0 => rfl
  | 1 => rfl
  | g + 2 => rfl

/-- the tuple convention of the source (`type(client) is tuple and len(client) == 2`) is `seqItem` -/
theorem client_eq (sv : SeqVars) (i : Nat) :
    (if typeOf (seqGetitem sv i) = PyType.tuple ∧ valLen (seqGetitem sv i) = 2 then valAt (seqGetitem sv i) 1
      else seqGetitem sv i) = seqItem sv i := by
  unfold seqGetitem seqItem
  cases sv.items[i]? with
  | none => rfl
  | some x =>
    cases x with
    | tuple xs =>
      match xs with
      | [] => rfl
      | [_] => rfl
      | [_, b] => rfl
      | _ :: _ :: _ :: _ => simp [typeOf, valLen]
    | _ => rfl

theorem stringTypes_eq (sv : SeqVars) (i : Nat) : inStringTypes (typeOf (seqGetitem sv i)) = textItem sv i := by
  unfold seqGetitem textItem
  cases sv.items[i]? with
  | none => rfl
  | some x => cases x <;> rfl

/-- the choice of what is pushed around the body, read off the source, is the interpreter's `inIter` -/
theorem renderItem_eq_inIter (env : Env) (fuel : Nat) (o : InOpts) (body : List Blk) (sv : SeqVars) (i : Nat) (st : St) :
    let t := typeOf (seqGetitem sv i)
    let client := if t = PyType.tuple ∧ valLen (seqGetitem sv i) = 2 then valAt (seqGetitem sv i) 1 else seqGetitem sv i
    let pf : Nat × Option Frame :=
      if o.noPush then (0, none)
      else if o.mapping then (1, some (mappingFrame client))
      else if inStringTypes t then (0, none)
      else (1, some (Frame.inst client []))
    renderItemGen env fuel pf.2 body (if pf.1 ≠ 0 then 1 else 0) st = inIter env fuel sv o body i st := by
  intro t client pf
  cases fuel with
  | zero => simp [renderItemGen, inIter]
  | succ f =>
    rw [inIter_succ]
    simp only [pf, client, t, client_eq sv i, stringTypes_eq sv i]
    by_cases h1 : o.noPush = true
    · simp [h1, renderItemGen]
    by_cases h2 : o.mapping = true
    · simp only [h1, h2, Bool.false_eq_true, if_false, if_true]
      cases seqItem sv i <;> simp [renderItemGen, renderPushed_eq, mappingFrame]
    by_cases h3 : textItem sv i = true
    · simp [h1, h2, h3, renderItemGen]
    · simp [h1, h2, h3, renderItemGen, renderPushed_eq]

/-- how a pass ends once the body has been rendered: the piece and the variables handed on, or the loop is left -/
def itemStep (r : Res Piece × St) (sv : SeqVars) : Step :=
  match r with
  | (.ok p, st) => .item p sv st
  | (.raise e, st) => .stop (.raise e) st
  | (.ret v, st) => .stop (.ret v) st
  | (.oom, st) => .stop .oom st

theorem inCont_itemStep (r : Res Piece × St) (sv : SeqVars) (k : SeqVars → St → Res (List Piece) × St) :
    inCont (itemStep r sv) k = andThen r fun p s => andThen (k sv s) fun ps s => (.ok (p :: ps), s) := by
  obtain ⟨r, s⟩ := r
  cases r <;> try rfl
  simp only [itemStep, inCont, andThen]
  outcome k sv s <;> rfl

/-- a pass of either loop in the interpreter's terms: the element is fetched (through the item guard when one is installed); a
refused element is skipped (`svSkip` is handed on) or ends the loop; otherwise the body is rendered on `svItem` and `svNext`
is handed on -/
def pass (env : Env) (fuel : Nat) (o : InOpts) (body : List Blk) (i : Nat) (denied : Bool) (svSkip svItem svNext : SeqVars)
    (st : St) : Step :=
  if denied then
    (if o.skipUnauth then .skip svSkip (fetchItem env i st) else .stop (.raise itemError) (fetchItem env i st))
  else itemStep (inIter env fuel svItem o body i (setSeq svItem (fetchItem env i st))) svNext

/-- the loop after a pass: what `inLoop_succ` and `inLoopB_succ` say of the interpreter's loops -/
theorem inCont_pass (env : Env) (fuel : Nat) (o : InOpts) (body : List Blk) (i : Nat) (denied : Bool)
    (svSkip svItem svNext : SeqVars) (st : St) (k : SeqVars → St → Res (List Piece) × St) :
    inCont (pass env fuel o body i denied svSkip svItem svNext st) k =
      loopItem env fuel o body i denied svSkip svItem svNext k st := by
  unfold pass loopItem
  split
  · split <;> rfl
  · exact inCont_itemStep _ _ k

/-- the variables a pass hands on to the next one -/
def stepVars : Step → Option SeqVars
  | .skip sv _ => some sv
  | .item _ sv _ => some sv
  | .stop _ _ => none

theorem stepVars_pass {env : Env} {fuel : Nat} {o : InOpts} {body : List Blk} {i : Nat} {denied : Bool}
    {svSkip svItem svNext sv' : SeqVars} {st : St}
    (h : stepVars (pass env fuel o body i denied svSkip svItem svNext st) = some sv') :
    (denied = true ∧ o.skipUnauth = true ∧ sv' = svSkip) ∨ (denied = false ∧ sv' = svNext) := by
  unfold pass at h
  cases denied with
  | true =>
    cases hsk : o.skipUnauth <;> simp only [hsk, if_true, if_false, Bool.false_eq_true, stepVars] at h
    · cases h
    · exact Or.inl ⟨rfl, rfl, (Option.some.inj h).symm⟩
  | false =>
    simp only [Bool.false_eq_true, if_false] at h
    generalize inIter env fuel svItem o body i _ = r at h
    obtain ⟨r, s⟩ := r
    cases r <;> cases h
    exact Or.inr ⟨rfl, rfl⟩

theorem inCont_congr (s : Step) (k1 k2 : SeqVars → St → Res (List Piece) × St)
    (h : ∀ sv', stepVars s = some sv' → ∀ st', k1 sv' st' = k2 sv' st') : inCont s k1 = inCont s k2 := by
  cases s with
  | skip sv st => simp only [inCont]; exact h sv rfl st
  | item p sv st => simp only [inCont]; rw [h sv rfl st]
  | stop r st => rfl

theorem guardedGetitem_eq (env : Env) (sv : SeqVars) (i : Nat) (st : St) :
    guardedGetitem env sv i st =
      (if itemDenied env sv i then none else some (seqGetitem sv i), { st with trace := st.trace ++ [.gitem 0 i] }) := by
  unfold guardedGetitem
  split <;> rfl

/-- the statements of a pass after the element is fetched = the interpreter's `inIter` on the updated variables -/
theorem inItemGen_spec (env : Env) (fuel : Nat) (o : InOpts) (body : List Blk) (sv : SeqVars) (i : Nat) (st : St) :
    inItemGen env fuel o body sv i (seqGetitem sv i) st =
      itemStep (inIter env fuel { sv with index := i } o body i (setSeq { sv with index := i } st))
        (if i = 0 then { sv with index := i, started := false } else { sv with index := i }) := by
  have h := renderItem_eq_inIter env fuel o body { sv with index := i } i (syncVars { sv with index := i } st)
  have e0 : ((i : Int) = 0) ↔ i = 0 := by omega
  unfold inItemGen
  simp only [e0]
  exact congrArg (fun r => itemStep r _) h

/-- **a pass of the unbatched loop in closed form**: `sequence-end` is stored on the last element (`svE`); `sequence-start` is
cleared after a skip at element 1, after a rendered element at element 0 -/
theorem inStepGen_eq (env : Env) (fuel : Nat) (o : InOpts) (body : List Blk) (sv : SeqVars) (i : Nat) (st : St) (svE : SeqVars)
    (hE : svE = { sv with ended := sv.ended || i + 1 == sv.items.length }) :
    inStepGen env fuel o body sv i st =
      pass env fuel o body i (itemDenied env sv i) (if i = 1 then { svE with started := false } else svE)
        { svE with index := i } (if i = 0 then { svE with index := i, started := false } else { svE with index := i }) st := by
  have e1 : ((i : Int) = 1) ↔ i = 1 := by omega
  have hsv : (if (i : Int) = (sv.items.length : Int) - 1 then { sv with ended := true } else sv) = svE := by
    subst hE
    by_cases h : i + 1 = sv.items.length
    · rw [if_pos (by omega)]; simp [h]
    · rw [if_neg (by omega), show (i + 1 == sv.items.length) = false from by simpa using h, Bool.or_false]
  have hd : itemDenied env svE i = itemDenied env sv i := by subst hE; rfl
  unfold inStepGen pass
  simp only [hsv, guardedGetitem_eq, e1, hd, inItemGen_spec]
  by_cases hg : env.guardOn = true
  · cases itemDenied env sv i <;> simp only [hg, fetchItem, if_true, if_false, Bool.false_eq_true, inItemGen_spec]
  · simp only [hg, itemDenied_noguard env sv i (by simpa using hg), fetchItem, if_false, Bool.false_eq_true]

/-- what the loop stores under `sequence-start` (and, once no element is left, under `sequence-end`) is not read by the loop
itself: the interpreter recomputes the flag of element `i` from the refusals before it -/
theorem inLoop_flags_irrel (env : Env) (o : InOpts) (body : List Blk) : ∀ (fuel : Nat) (sv : SeqVars) (b e : Bool) (i : Nat) (st : St),
    (i < sv.items.length → e = sv.ended) →
    inLoop env fuel { sv with started := b, ended := e } o body i st = inLoop env fuel sv o body i st := by
  intro fuel
  induction fuel with
  | zero => intro sv b e i st _; rw [inLoop_zero, inLoop_zero]
  | succ f ih =>
    intro sv b e i st h
    rw [inLoop_succ, inLoop_succ]
    by_cases hi : i ≥ sv.items.length
    · rw [if_pos hi, if_pos hi]
    · cases h (by omega)
      rw [if_neg hi, if_neg hi]
      exact loopItem_congr env f (fun s => ih sv b sv.ended (i + 1) s fun _ => rfl) (fun _ => rfl) st

theorem afterItem_eq (sv : SeqVars) (w : BWin) (i : Nat) :
    (if (i : Int) = (w.first : Int) then { sv with started := false } else sv) = afterItem sv w i := by
  have e1 : ((i : Int) = (w.first : Int)) ↔ i = w.first := by omega
  simp only [afterItem, e1, beq_iff_eq]

/-- the statements of a batched pass after the element is fetched = `inIter` on the updated variables, then `afterItem` -/
theorem inBatchItemGen_spec (env : Env) (fuel : Nat) (o : InOpts) (w : BWin) (body : List Blk) (sv : SeqVars) (i : Nat) (st : St) :
    inBatchItemGen env fuel o w body sv i (seqGetitem sv i) st =
      itemStep (inIter env fuel { sv with index := i } o body i (setSeq { sv with index := i } st))
        (afterItem { sv with index := i } w i) := by
  have h := renderItem_eq_inIter env fuel o body { sv with index := i } i (syncVars { sv with index := i } st)
  unfold inBatchItemGen
  rw [← afterItem_eq]
  exact congrArg (fun r => itemStep r _) h

/-- **a pass of the batched loop in closed form**: on what the pass has stored before the element is fetched (`sv1`, the
interpreter's `batchStep`: `C10.gen_in_batch_pre_is_model`); `sequence-start` is cleared by `afterItem` whether the element was
rendered or skipped -/
theorem inBatchStepGen_eq (env : Env) (fuel : Nat) (o : InOpts) (w : BWin) (body : List Blk) (sv : SeqVars) (i : Nat) (st : St)
    (sv1 : SeqVars) (h1 : sv1 = inBatchPreGen sv w i) :
    inBatchStepGen env fuel o w body sv i st =
      pass env fuel o body i (itemDenied env sv1 i) (afterItem sv1 w i) { sv1 with index := i }
        (afterItem { sv1 with index := i } w i) st := by
  subst h1
  unfold inBatchStepGen pass
  simp only [guardedGetitem_eq, afterItem_eq, inBatchItemGen_spec]
  by_cases hg : env.guardOn = true
  · cases itemDenied env (inBatchPreGen sv w i) i <;>
      simp only [hg, fetchItem, if_true, if_false, Bool.false_eq_true, inBatchItemGen_spec]
  · simp only [hg, itemDenied_noguard env _ i (by simpa using hg), fetchItem, if_false, Bool.false_eq_true]

/-- go on with a result, hand an exception / return / out-of-fuel up -/
def contR {α γ : Type} (r : Res α × St) (k : α → St → Res γ × St) : Res γ × St :=
  match r with
  | (.ok a, s) => k a s
  | (.raise e, s) => (.raise e, s)
  | (.ret v, s) => (.ret v, s)
  | (.oom, s) => (.oom, s)

theorem contR_eq_andThen {α γ : Type} (r : Res α × St) (k : α → St → Res γ × St) : contR r k = andThen r k := rfl

theorem sortPart_key (env : Env) (o : InOpts) (x : InXOpts) (k : Option Text) (xs : List Val) (st : St) :
    sortPart env o { x with sortKey := k } xs st = sortPart env o { sortKey := k } xs st := rfl

/-- `self.sort_sequence(sequence, md, sort)` hands on a list of what `sortPart` returns -/
theorem sortSequence_cont {γ : Type} (env : Env) (o : InOpts) (k : Text) (V : Val) (st : St) (K : List Val → St → Res γ × St) :
    andThen (sortSequence env o k V st) (fun v s => K (seqItems v) s) =
      andThen (sortPart env o { sortKey := some k } (seqItems V) st) K := by
  unfold sortSequence
  outcome sortPart env o _ _ st <;> rfl

/-- the sort step of the source (`sort_expr` wins over `sort=`) is `evalSortKey` followed by `sortPart` -/
theorem sort_step_eq {γ : Type} (env : Env) (f : Nat) (o : InOpts) (x : InXOpts) (V : Val) (st : St) (K : List Val → St → Res γ × St) :
    andThen (inSortGen env (f + 1) o x V st) (fun v s => K (seqItems v) s) =
      andThen (evalSortKey env (f + 1) x st) (fun key sA => andThen (sortPart env o { x with sortKey := key } (seqItems V) sA) K) := by
  unfold inSortGen evalSortKey
  simp only [sortPart_key]
  cases x.sortExpr with
  | none =>
    cases x.sortKey with
    | none => simp [andThen, sortPart]
    | some k => exact sortSequence_cont env o k V st K
  | some e =>
    simp only [sortExprEval]
    rcases evalExpr env f e st with ⟨v | _ | _ | _, s⟩
    · cases v <;> try rfl
      exact sortSequence_cont env o _ V s K
    all_goals rfl

/-- the reverse step of the source (`reverse_expr` true, or else `reverse`) is `evalReverse` followed by `applyReverse` -/
theorem reverse_step_eq {γ : Type} (env : Env) (f : Nat) (o : InOpts) (x : InXOpts) (V : Val) (st : St) (K : List Val → St → Res γ × St) :
    andThen (inReverseGen env (f + 1) o x V st) (fun v s => K (seqItems v) s) =
      andThen (evalReverse env (f + 1) x st) (fun rev s1 => K (applyReverse rev (seqItems V)) s1) := by
  unfold inReverseGen evalReverse
  cases hre : x.reverseExpr with
  | none =>
    cases x.reverse <;> rfl
  | some e =>
    simp only [exprTruth]
    rcases evalExpr env f e st with ⟨v | _ | _ | _, s⟩
    · dsimp only
      cases truthy v <;> cases x.reverse <;> rfl
    all_goals rfl

/-- what `renderBlk` does on dtml-in once the sequence is arranged (no batch): the frames pushed, `inLoop`, the pops, the join -/
def loopPart (env : Env) (fuel : Nat) (o : InOpts) (body : List Blk) (ys : List Val) (cache : List Frame) (s1 : St) : Res (List Piece) × St :=
  let sv : SeqVars := { items := ys, mapping := o.mapping, prefix_ := o.prefix_ }
  let (r, st2) := inLoop env fuel sv o body 0 { s1 with stack := (Frame.seq sv :: cache) ++ s1.stack }
  let st3 := { st2 with stack := st2.stack.drop (Frame.seq sv :: cache).length }
  (match r with
   | .ok ps =>
     (match joinUnicode env ps with
      | .ok p => (.ok (if pieceEmpty p then [] else [p]), st3)
      | .raise e => (.raise e, st3)
      | _ => (.oom, st3))
   | .raise e => (.raise e, st3)
   | .ret x => (.ret x, st3)
   | .oom => (.oom, st3))

theorem loopPart_eq (env : Env) (fuel : Nat) (o : InOpts) (body : List Blk) (ys : List Val) (cache : List Frame) (s1 : St) :
    loopPart env fuel o body ys cache s1 =
      loopAll env fuel { items := ys, mapping := o.mapping, prefix_ := o.prefix_ } o body cache s1 :=
  loopAll_eq env fuel _ o body cache s1

/-- the cache `renderwob` pushes: `{name: sequence}` for a sequence found by name -/
def cacheG (src : Src) (sequence : Val) : Option Frame :=
  match src with
  | .name n => some (Frame.dict [(n, sequence)])
  | .expr _ => none

theorem inTagGen_eq (env : Env) (fuel : Nat) (src : Src) (o : InOpts) (x : InXOpts) (body : List Blk) (els : Option (List Blk))
    (st : St) :
    inTagGen env fuel src o x body els st =
      andThen (evalSrc env fuel src st) fun v s =>
        match ensureSubscription v with
        | .ok sequence => inArrangeGen env fuel o x body els sequence (cacheG src sequence) s
        | .raise e => (.raise e, s)
        | _ => (.oom, s) := by
  cases src
  all_goals
    simp only [inTagGen, mdGetitem, callExpr]
    outcome evalSrc env fuel _ st <;> rfl

/-- `sequence[0]` succeeds = there are elements -/
theorem seqProbe_zero (V : Val) : seqProbe V 0 = !(seqItems V).isEmpty := by
  unfold seqProbe
  cases seqItems V with
  | nil => rfl
  | cons a t => simp only [List.length_cons, List.isEmpty_cons, Bool.not_false, decide_eq_true_eq]; omega

/-- `renderwob` once the sequence is there; the loop reads only the elements of what the reverse step hands on -/
theorem inArrangeGen_eq (env : Env) (fuel : Nat) (o : InOpts) (x : InXOpts) (body : List Blk) (els : Option (List Blk)) (V : Val)
    (cache : Option Frame) (st : St) :
    inArrangeGen env fuel o x body els V cache st =
      if isStr V then (.raise ⟨"ValueError".toList, "Strings are not allowed as input to the in tag.".toList⟩, st)
      else if (seqItems V).isEmpty then elsePart env fuel els st
      else andThen (inSortGen env fuel o x V st) fun v s =>
        andThen (inReverseGen env fuel o x v s) fun v' s' => inRenderGen env fuel o body (.list (seqItems v')) cache s' := by
  unfold inArrangeGen
  rw [seqProbe_zero]
  split
  · rfl
  cases (seqItems V).isEmpty
  · simp only [Bool.not_false, if_true, Bool.false_eq_true, if_false]
    outcome inSortGen env fuel o x V st <;> try rfl
    simp only [andThen]
    outcome inReverseGen env fuel o x _ _ <;> rfl
  · cases els <;> rfl

/-- what the interpreter iterates over is what `sequence_ensure_subscription` hands on, and the caches agree -/
theorem ensure_of_items {v : Val} {xs : List Val} (h : itemsOf v = some xs) :
    ∃ V, ensureSubscription v = .ok V ∧ isStr V = false ∧ seqItems V = xs ∧
      ∀ src, (cacheG src V).toList = cacheOf src v := by
  -- `itemsOf` accepts a list, a tuple, a mapping: on each `sequence_ensure_subscription` computes, and hands on the same elements
  cases v <;> cases h
  all_goals exact ⟨_, rfl, rfl, rfl, fun src => by cases src <;> rfl⟩

end DTML.Lemmas.InGen
