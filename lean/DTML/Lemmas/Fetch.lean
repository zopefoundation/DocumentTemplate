/-
Lemmas for the fetch part of `Var.render` translated from the source (GenFetch.lean, harness/trans_fetch.py):
what the two models do with a value that has passed the null test, and the null test itself.
-/
import DTML.GenFetch
import DTML.Lemmas.Interp
namespace DTML.Lemmas.Fetch

section Interp
open DTML.Render DTML.GenFetch

/-- what dtml-var of the interpreter model does with a value that has passed the null test (`insertVal` without its
first branch): html quoting, insertion - the part of the model that stands for the stages after the fetch -/
def afterNull (env : Env) (hq : Bool) (v : Val) (st : St) : Out :=
  let one (p : Piece) : List Piece := if pieceEmpty p then [] else [p]
  if hq then
    (match htmlQuote env (pieceOfVal v) with
     | .ok p => (.ok (one p), st)
     | .raise e => (.raise e, st)
     | _ => (.oom, st))
  else (.ok (one (pieceOfVal v)), st)

/-- `not val and val != 0` of the source, its `!=` computed by the model's `valBeq`, is the null test that `insertVal` makes -/
theorem nullTest_eq (v : Val) :
    (!truthy v && !valBeq 1 v (.int 0)) =
      (!truthy v && (match v with | .int _ => false | .bool _ => false | _ => true)) := by
  cases v <;> simp [truthy, valBeq]

/-- the translated null test followed by `afterNull` is `insertVal` -/
theorem fetchNull_is_insertVal (env : Env) (hq : Bool) (args : Args) (v : Val) (st : St) :
    fetchNullGen args (afterNull env hq) v st = insertVal env hq args.null v st := by
  unfold fetchNullGen insertVal afterNull retText
  rw [Bool.and_assoc, nullTest_eq, ← Bool.and_assoc]
  cases (args.null.isSome && !truthy v && match v with | .int _ => false | .bool _ => false | _ => true) <;> rfl

theorem bind_fetchNull (env : Env) (hq : Bool) (args : Args) (r : Res Val × St) :
    bind r (fun val st => fetchNullGen args (afterNull env hq) val st) = andThen r (insertVal env hq args.null) := by
  obtain ⟨r, st'⟩ := r
  cases r <;> simp only [GenFetch.bind, andThen, fetchNull_is_insertVal]

/-- `md[name]` / `expr.eval(md)` followed by the null test and the insertion: `fetchVar` -/
theorem bind_item_is_fetchVar (env : Env) (fuel : Nat) (n : Text) (hq : Bool) (args : Args) (st : St) :
    bind (mdItem env fuel n st) (fun val st => fetchNullGen args (afterNull env hq) val st) =
      fetchVar env fuel (.name n) hq args.null st := by
  match fuel with
  | 0 => rfl
  | 1 => rfl
  | g + 2 => rw [fetchVar_succ]; exact bind_fetchNull env hq args _

theorem bind_eval_is_fetchVar (env : Env) (fuel : Nat) (e : Expr) (hq : Bool) (args : Args) (st : St) :
    bind (exprEval env fuel e st) (fun val st => fetchNullGen args (afterNull env hq) val st) =
      fetchVar env fuel (.expr e) hq args.null st := by
  match fuel with
  | 0 => rfl
  | 1 => rfl
  | g + 2 => rw [fetchVar_succ]; exact bind_fetchNull env hq args _

end Interp

section Pipe
open DTML.Quote DTML.VarPipe DTML.GenFetch

/-- the stages of `renderFull` after the null test: `fmt=`, then the rest -/
def afterNullPipe (x : Ext) (sp : Spec) (v : Val) : Option (R Text) :=
  match fmtOpt x sp v with
  | none => none
  | some (.error e) => some (.error e)
  | some (.ok v1) => afterFmt x sp v1

theorem nullTestPipe_eq (v : Val) : (!truthy v && !eqInt v 0) = isNull v := by
  cases v <;> simp [truthy, eqInt, isNull]

theorem fetchNullPipe_is_renderFull (x : Ext) (sp : Spec) (args : Args) (h : args.null = sp.null) (v : Val) :
    fetchNullPipeGen args (afterNullPipe x sp) v = renderFull x sp v := by
  unfold fetchNullPipeGen renderFull afterNullPipe
  rw [Bool.and_assoc, nullTestPipe_eq, h]
  split <;> rfl

end Pipe

end DTML.Lemmas.Fetch
