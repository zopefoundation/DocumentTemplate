/-
The sequence variables of the interpreter (DTML/Render.lean: `SeqVars`, `seqGet`, `seqValue`, the stores of a batched loop
`SeqVars.set` / `prevInfo` / `nextInfo` / `batchInfo` / `batchStep`): what a store changes and what it leaves, where a stored
entry is found, the loop's guard tests without a guard, `startedAt` from one element to the next, and `stripPrefix` on a name
that starts with the prefix (how `seqLookup` recognises `sequence-var-x`, `first-x`, `last-x`).
-/
import DTML.Lemmas.Lookup
namespace DTML.Render

theorem itemDenied_noguard (env : Env) (sv : SeqVars) (i : Nat) (hg : env.guardOn = false) : itemDenied env sv i = false := by
  simp [itemDenied, hg]

theorem startedAt_noguard (env : Env) (o : InOpts) (sv : SeqVars) (i : Nat) (hg : env.guardOn = false) :
    startedAt env o sv i = (i == 0) := by
  unfold startedAt
  by_cases h : i = 0
  · simp [h]
  · simp [h, itemDenied_noguard env sv _ hg]

/-- the stateful `sequence-start` of the source against the interpreter's closed form: after a refused element that is skipped -/
theorem startedAt_succ_skip (env : Env) (o : InOpts) (sv : SeqVars) (i : Nat) (hd : itemDenied env sv i = true)
    (hsk : o.skipUnauth = true) :
    startedAt env o sv (i + 1) = (if i = 1 then false else startedAt env o sv i) := by
  match i with
  | 0 => simp [startedAt, hd, hsk]
  | 1 => simp [startedAt, hd, hsk]
  | n + 2 => simp [startedAt]

/-- the stateful `sequence-start` of the source against the interpreter's closed form: after a rendered element -/
theorem startedAt_succ_item (env : Env) (o : InOpts) (sv : SeqVars) (i : Nat) (hd : itemDenied env sv i = false) :
    startedAt env o sv (i + 1) = (if i = 0 then false else startedAt env o sv i) := by
  match i with
  | 0 => simp [startedAt, hd]
  | 1 => simp [startedAt, hd]
  | n + 2 => simp [startedAt]

theorem stripPrefix_append (p s : Text) : stripPrefix p (p ++ s) = some s := by
  simp only [stripPrefix, List.isPrefixOf_iff_prefix.mpr (List.prefix_append p s), if_true, List.drop_left]

/-- what `sequence-var-x` shows of a strict lookup: the value, nothing on any failure -/
def SVal.toOption : SVal → Option Val
  | .val v => some v
  | _ => none

theorem seqValue_of_strict (sv : SeqVars) (i : Nat) (x : Text) :
    seqValue sv i x = (seqValueStrict sv i x).toOption := by
  unfold seqValue seqValueStrict
  -- by the flag and the kind of the element: only a mapping under `mapping` and an object without it look the name up
  cases sv.mapping <;> cases seqItem sv i <;> first | rfl | skip
  all_goals
    simp only [if_true, if_false, Bool.false_eq_true]
    cases List.lookup x _ <;> rfl

/-- storing a batch variable changes only the dictionary of stored entries -/
theorem SeqVars.set_fields (sv : SeqVars) (n : Text) (v : Val) :
    (sv.set n v).items = sv.items ∧ (sv.set n v).started = sv.started ∧ (sv.set n v).ended = sv.ended ∧
    (sv.set n v).index = sv.index ∧ (sv.set n v).prefix_ = sv.prefix_ ∧ (sv.set n v).mapping = sv.mapping := by
  unfold SeqVars.set
  cases sv.prefix_ <;> exact ⟨rfl, rfl, rfl, rfl, rfl, rfl⟩

theorem prevInfo_fields (sv : SeqVars) (w : BWin) (f : Bool) :
    (prevInfo sv w f).items = sv.items ∧ (prevInfo sv w f).started = sv.started ∧ (prevInfo sv w f).ended = sv.ended := by
  unfold prevInfo
  cases f <;> simp [SeqVars.set_fields]

theorem nextInfo_fields (sv : SeqVars) (w : BWin) (f : Bool) :
    (nextInfo sv w f).items = sv.items ∧ (nextInfo sv w f).started = sv.started ∧ (nextInfo sv w f).ended = sv.ended := by
  unfold nextInfo
  cases f <;> simp [SeqVars.set_fields]

theorem batchInfo_fields (sv : SeqVars) (w : BWin) (i : Nat) :
    (batchInfo sv w i).items = sv.items ∧ (batchInfo sv w i).started = sv.started ∧ (batchInfo sv w i).ended = sv.ended := by
  unfold batchInfo
  dsimp only
  split <;> split <;> simp [prevInfo_fields, nextInfo_fields]

theorem batchStep_fields (sv : SeqVars) (w : BWin) (i : Nat) :
    (batchStep sv w i).items = sv.items ∧ (batchStep sv w i).started = sv.started ∧
    (batchStep sv w i).ended = (sv.ended || (i + 1 == w.stop)) := by
  have h0 := SeqVars.set_fields sv (txt "previous-sequence") (.int 0)
  have h1 := SeqVars.set_fields (sv.set (txt "previous-sequence") (.int 0)) (txt "next-sequence") (.int 0)
  unfold batchStep
  cases hl : (i + 1 == w.stop) <;> cases hf : (i == w.first) <;>
    simp only [Bool.or_true, Bool.or_false, Bool.false_eq_true, if_true, if_false, batchInfo_fields, h1, h0, and_self]

/-- the name under which a batch variable is stored a second time contains an underscore -/
theorem underscore_mem_prefixAlias (p n : Text) : '_' ∈ prefixAlias p n := by
  unfold prefixAlias
  split <;> simp

theorem extra_lookup_set_self (sv : SeqVars) (n : Text) (v : Val) (hn : '_' ∉ n) : (sv.set n v).extra.lookup n = some v := by
  unfold SeqVars.set
  cases hp : sv.prefix_ with
  | none => simp only [lookup_setKV_self]
  | some p =>
    have hne : n ≠ prefixAlias p n := fun e => hn (e ▸ underscore_mem_prefixAlias p n)
    simp only [lookup_setKV_ne _ _ _ _ hne, lookup_setKV_self]

theorem extra_lookup_set_ne (sv : SeqVars) (n k : Text) (v : Val) (hk : '_' ∉ k) (hne : k ≠ n) :
    (sv.set n v).extra.lookup k = sv.extra.lookup k := by
  unfold SeqVars.set
  cases hp : sv.prefix_ with
  | none => simp only [lookup_setKV_ne _ _ _ _ hne]
  | some p =>
    have hne2 : k ≠ prefixAlias p n := fun e => hk (e ▸ underscore_mem_prefixAlias p n)
    simp only [lookup_setKV_ne _ _ _ _ hne2, lookup_setKV_ne _ _ _ _ hne]

theorem seqGet_of_extra (sv : SeqVars) (k : Text) (v : Val) (h : sv.extra.lookup k = some v) : seqGet sv k = .val v := by
  unfold seqGet
  rw [h]

/-- an optional flag and three entries stored one after the other under distinct names, none with an underscore (so no
prefixed copy collides): each is found under its name - the shape of `prevInfo` and of `nextInfo` -/
theorem seqGet_stored_four (sv : SeqVars) {F A B C : Text} {x y z : Val}
    (hne : [F, A, B, C].Pairwise (· ≠ ·)) (hus : ∀ n ∈ [F, A, B, C], '_' ∉ n) :
    let s := fun f : Bool => (((if f then sv.set F (.int 1) else sv).set A x).set B y).set C z
    seqGet (s true) F = .val (.int 1) ∧ (∀ f, seqGet (s f) A = .val x) ∧ (∀ f, seqGet (s f) B = .val y) ∧
      (∀ f, seqGet (s f) C = .val z) := by
  simp only [List.pairwise_cons, List.mem_cons, List.not_mem_nil, or_false, forall_eq_or_imp, forall_eq] at hne hus
  obtain ⟨⟨hFA, hFB, hFC⟩, ⟨hAB, hAC⟩, hBC, -⟩ := hne
  obtain ⟨hF, hA, hB, hC⟩ := hus
  intro s
  refine ⟨?_, fun f => ?_, fun f => ?_, fun f => ?_⟩
  · apply seqGet_of_extra
    rw [extra_lookup_set_ne _ _ _ _ hF hFC, extra_lookup_set_ne _ _ _ _ hF hFB, extra_lookup_set_ne _ _ _ _ hF hFA]
    exact extra_lookup_set_self _ _ _ hF
  · apply seqGet_of_extra
    rw [extra_lookup_set_ne _ _ _ _ hA hAC, extra_lookup_set_ne _ _ _ _ hA hAB]
    exact extra_lookup_set_self _ _ _ hA
  · apply seqGet_of_extra
    rw [extra_lookup_set_ne _ _ _ _ hB hBC]
    exact extra_lookup_set_self _ _ _ hB
  · exact seqGet_of_extra _ _ _ (extra_lookup_set_self _ _ _ hC)

end DTML.Render
