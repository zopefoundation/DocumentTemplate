/-
The cells a conditional compiles to (`encodeI`: what the `'i'` block of `render_blocks_` walks over,
Props/C09.gen_if_block_is_model; the lemma about the loop itself, `iLoop_spec`, is in Props/C09 and takes `notOom` and
`renderOpt_eq` from here), the `'v'` block (`vBlock_eq`, with `esc_id_of_plain` for its fast path), and the section a tag
renders on top of one more frame (`pushedGen_eq`: dtml-let / with / try; `letLoopGen_eq`: the bindings of dtml-let, stored by
`cacheSet_eq` like a cached condition); `GenRender.iLoopGen`, `vBlockGen`, `pushedGen`, `letLoopGen` are regenerated from the
source on every run (harness/trans_render.py).
-/
import DTML.GenRender
import DTML.Lemmas.Quote
import DTML.Lemmas.Interp
namespace DTML.Lemmas.IBlock
open DTML.Render DTML.GenRender

def encodeI (conds : List (Src × List Blk)) (els : Option (List Blk)) : List ICell :=
  conds.flatMap (fun p => [ICell.cond p.1, ICell.body p.2]) ++ (match els with | some b => [ICell.body b] | none => [])

def notOom {α : Type} : Res α → Prop
  | .oom => False
  | _ => True

theorem renderOpt_eq (env : Env) (fuel : Nat) (b : List Blk) (st : St)
    (h : notOom (renderBlocks env fuel b st).1) : renderOpt env fuel b st = renderBlocks env fuel b st := by
  unfold renderOpt
  cases b with
  | nil =>
    cases fuel with
    | zero => simp [renderBlocks, notOom] at h
    | succ f => simp [renderBlocks]
  | cons x xs => simp

theorem encodeI_length (conds : List (Src × List Blk)) (els : Option (List Blk)) :
    (encodeI conds els).length = 2 * conds.length + (match els with | some _ => 1 | none => 0) := by
  induction conds with
  | nil => cases els <;> simp [encodeI]
  | cons p ps ih =>
    simp only [encodeI, List.flatMap_cons, List.length_append, List.length_cons, List.length_nil] at ih ⊢
    omega

/-- `cache[n] = v` of the `'i'` block and `d[name] = v` of dtml-let are the model's `bindTop` -/
theorem cacheSet_eq (st : St) (n : Text) (v : Val) : cacheSet st n v = bindTop n v st := rfl

/-- the loop of `Let.render` over the bindings, then the section: the model's `letLoop` -/
theorem letLoopGen_eq (env : Env) : ∀ (fuel : Nat) (binds : List (Text × Src)) (body : List Blk) (st : St),
    letLoopGen env fuel binds body st = letLoop env fuel binds body st := by
  intro fuel
  induction fuel with
  | zero => intro binds body st; rfl
  | succ f ih =>
    intro binds body st
    cases binds with
    | nil => rfl
    | cons p rest =>
      rw [letLoop_cons, letLoopGen]
      rcases evalSrc env f p.2 st with ⟨v | _ | _ | _, st'⟩
      · simp only [cacheSet_eq]
        exact ih rest body _
      all_goals rfl

/-- a section rendered on top of one more frame that is popped afterwards is the model's `framed` -/
theorem pushedGen_eq (env : Env) (fuel : Nat) (fr : Frame) (body : List Blk) (st : St) :
    pushedGen env fuel fr body 1 st = framed env fuel fr body st := by
  match fuel with
  | 0 => rfl
  | 1 => rfl
  | g + 2 => rfl

theorem esc_id_of_plain : ∀ (s : Text),
    (s.contains '&' || s.contains '<' || s.contains '>' || s.contains '"' || s.contains '\'') = false →
    s.flatMap escChar = s := by
  intro s h
  refine Quote.escape_of_plain s fun c hc => ?_
  simp only [Bool.or_eq_false_iff, List.contains_eq_mem, decide_eq_false_iff_not] at h
  obtain ⟨⟨⟨⟨h1, h2⟩, h3⟩, h4⟩, h5⟩ := h
  exact Quote.not_isSpecial_iff.mpr
    ⟨fun e => h1 (e ▸ hc), fun e => h2 (e ▸ hc), fun e => h3 (e ▸ hc), fun e => h4 (e ▸ hc), fun e => h5 (e ▸ hc)⟩

/-- the `'v'` branch of the source is the simple dtml-var of the model (which always escapes: the fast path of the source
is sound because text without the five characters is its own escaping) -/
theorem vBlock_eq (env : Env) (fuel : Nat) (src : Src) (hq : Bool) (st : St) :
    vBlockGen env fuel src hq st = fetchVar env (fuel + 2) src hq none st := by
  rw [fetchVar_succ]
  unfold vBlockGen
  -- the value is fetched by the same call on both sides
  split <;> rename_i heq <;>
    rw [show evalSrc env (fuel + 1) src st = _ from by cases src <;> exact heq]
  case h_1 v st' =>
    -- without html_quote the value as it is; with it, quoted - unless it is text without any of the five characters
    simp only [andThen, insertVal, Option.isSome_none, Bool.false_and, Bool.false_eq_true, if_false]
    cases hq with
    | false => simp
    | true =>
      cases hp : pieceOfVal v with
      | bytes b =>
        cases htmlQuote env (Piece.bytes b) <;> rfl
      | text t =>
        by_cases ht : (t.contains '&' || t.contains '<' || t.contains '>' || t.contains '"' || t.contains '\'') = true
        · simp only [ht, if_true, Bool.not_false]
          cases htmlQuote env (Piece.text t) <;> rfl
        · have ht' := Bool.not_eq_true _ ▸ ht
          simp only [ht', Bool.false_eq_true, if_false, Bool.not_true, htmlQuote, esc_id_of_plain t ht']
  all_goals rfl

end DTML.Lemmas.IBlock
