/-
For the obligations on `GenVarInit` (the translation of `DT_Var.Var.__init__`) in Props/C03 and Props/C15: the attribute
dictionary a dtml-var tag described by a `VarPipe.Spec` / by a `Render.Blk.var` cell parses to (`paramsOf`, `blkParams`,
written by hand), and what the tests of the source (`len(args)`, `'html_quote' in args`, the filter of the modifiers) see in
it.  Of `GenVarInit` itself only `stripGen` has a lemma here (`stripGen_eq`); the other lemmas speak of the
dictionaries, and the property files apply them to the translated tests.
-/
import DTML.GenVarInit
import DTML.VarPipe
namespace DTML.Lemmas.VarInit
open DTML.Scan DTML.Parse

/-- one optional attribute written with a value -/
def optParam (k : String) (v : Option Text) : Params :=
  match v with
  | some t => [(k, .str t)]
  | none => []

/-- the dictionary `parse_params` returns for the tag a `VarPipe.Spec` describes (what `harness/varpipe.tag_source`
writes): the unnamed value, every option name written (without a value: the table's default `1`; written twice it is
still one key), and the attributes that carry a value -/
def paramsOf (sp : VarPipe.Spec) : Params :=
  ("", .str ['x']) :: ((sp.written.eraseDups.map fun m => (m, PVal.dflt "1")) ++
    (optParam "fmt" sp.fmt ++ optParam "size" sp.size ++ optParam "etc" sp.etc ++ optParam "null" sp.null ++
      optParam "missing" sp.missing))

/-- the dictionary of the tag a `.var src hq missing null` cell of the interpreter model stands for: the name (unnamed
value) or `expr=`, `html_quote` (written, or implied by the entity syntax `&dtml-x;`), `missing=`, `null=` -/
def blkParams (isExpr : Bool) (target : Text) (hq : Bool) (missing null : Option Text) : Params :=
  (if isExpr then ("expr", .str target) else ("", .str target)) ::
    ((if hq then [("html_quote", PVal.dflt "1")] else []) ++ optParam "missing" missing ++ optParam "null" null)

theorem optParam_length (k : String) (v : Option Text) : (optParam k v).length = if v.isSome then 1 else 0 := by
  cases v <;> rfl

theorem lookup_optParam {k k' : String} (v : Option Text) (h : k ≠ k') : List.lookup k (optParam k' v) = none := by
  cases v with
  | none => rfl
  | some t => rw [optParam, List.lookup_cons, beq_eq_false_iff_ne.mpr h, List.lookup_nil]

theorem lookup_flags (l : List String) (k : String) :
    List.lookup k (l.map fun m => (m, PVal.dflt "1")) = if l.contains k then some (PVal.dflt "1") else none := by
  induction l with
  | nil => rfl
  | cons a t ih =>
    simp only [List.map_cons, List.lookup_cons, List.contains_cons, ih]
    by_cases h : k = a
    · simp [h]
    · simp [beq_eq_false_iff_ne.mpr h]

theorem contains_eraseDups (l : List String) (k : String) : l.eraseDups.contains k = l.contains k := by
  simp [List.mem_eraseDups]

/-- a key that is none of the value-carrying attributes is in the dictionary exactly when it was written, and then with
the default of the table -/
theorem lookup_paramsOf (sp : VarPipe.Spec) (k : String)
    (hk : k ∉ ["", "fmt", "size", "etc", "null", "missing"]) :
    List.lookup k (paramsOf sp) = if sp.written.contains k then some (PVal.dflt "1") else none := by
  simp only [List.mem_cons, List.not_mem_nil, or_false, not_or] at hk
  obtain ⟨h0, h1, h2, h3, h4, h5⟩ := hk
  rw [paramsOf, List.lookup_cons, beq_eq_false_iff_ne.mpr h0]
  simp only [List.lookup_append, lookup_flags, contains_eraseDups, lookup_optParam _ h1, lookup_optParam _ h2,
    lookup_optParam _ h3, lookup_optParam _ h4, lookup_optParam _ h5, Option.or_none]

theorem has_paramsOf (sp : VarPipe.Spec) (k : String)
    (hk : k ∉ ["", "fmt", "size", "etc", "null", "missing"]) :
    (paramsOf sp).has k = sp.written.contains k := by
  rw [Params.has, lookup_paramsOf sp k hk]
  cases sp.written.contains k <;> rfl

theorem paramsOf_length (sp : VarPipe.Spec) :
    (paramsOf sp).length = 1 + sp.written.eraseDups.length + (if sp.missing.isSome then 1 else 0) +
      (if sp.null.isSome then 1 else 0) + (if sp.fmt.isSome then 1 else 0) +
      (if sp.size.isSome then 1 else 0) + (if sp.etc.isSome then 1 else 0) := by
  simp only [paramsOf, List.length_cons, List.length_append, List.length_map, optParam_length]
  omega

theorem modifiers_not_valued : ∀ m ∈ Gen.modifiers, m ∉ ["", "fmt", "size", "etc", "null", "missing"] := by decide +kernel

/-- `args[:4] == 'var '` of the source is a prefix test -/
theorem stripGen_eq (args : Text) :
    GenVarInit.stripGen args = if "var ".toList.isPrefixOf args then args.drop 4 else args := by
  have h : args.take 4 = "var ".toList ↔ "var ".toList.isPrefixOf args = true := by
    rw [List.isPrefixOf_iff_prefix, List.prefix_iff_eq_take]
    exact eq_comm
  simp only [GenVarInit.stripGen, h]

end DTML.Lemmas.VarInit
