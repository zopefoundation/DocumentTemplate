/-
Lemmas for the obligations on DT_Util.parse_params / name_param (DTML/GenParams.lean, generated):
the chain of the four matchers in the order of the source is the model's `nextSpec` (`chain_spec`); one call of the model
with its recursive call as a parameter (`modelStep`, `aux_succ`); every successful match consumes a character, so the fuel
of `parseParamsAux` does not matter (`aux_fuel_irrelevant`); the slice identities behind the tests of `name_param`.
-/
import DTML.GenParams
import DTML.Lemmas.Scanner
namespace DTML.Lemmas.Params
open DTML.Scan DTML.Parse DTML.GenParams DTML.Lemmas.Scanner

theorem isTokChar_quote : isTokChar '"' = false := by decide

/-- what the chain `if mo_p … elif mo_q … elif mo_unp … elif mo_unq … else` sees = the model's classifier -/
def ChainSpec (text : Text) : Prop :=
  (∀ g, matchParm text = some g →
    ∃ L, nextSpec text = .named (grp (some g) 2) (grp (some g) 3) L ∧ grp (some g) 1 = text.take L) ∧
  (∀ g, matchQparm text = some g →
    ∃ L, nextSpec text = .named (grp (some g) 2) (grp (some g) 3) L ∧ grp (some g) 1 = text.take L) ∧
  (matchParm text = none → matchQparm text = none → ∀ g, matchUnparm text = some g →
    ∃ L, nextSpec text = .bare (grp (some g) 2) L ∧ grp (some g) 1 = text.take L) ∧
  (matchUnparm text = none → ∀ g, matchQunparm text = some g →
    ∃ L, nextSpec text = .quoted (grp (some g) 2) L ∧ grp (some g) 1 = text.take L) ∧
  (matchUnparm text = none → matchQunparm text = none →
    nextSpec text = if (pyStrip text).isEmpty then .blank else .bad)

theorem chain_spec (text : Text) : ChainSpec text := by
  unfold ChainSpec matchParm matchQparm matchUnparm matchQunparm nextSpec
  simp only []
  generalize (List.takeWhile isCtl text).length = w
  generalize List.drop w text = s
  generalize (List.takeWhile isTokChar s).length = n
  generalize List.drop n s = d
  by_cases hn : n > 0
  · -- a name stands at the start: `unparm` matches it, so the chain ends in one of its first three arms
    simp only [hn, if_true]
    refine ⟨fun g h => ?_, fun g h => ?_, fun hp hq g h => ?_, fun h => ?_, fun h => ?_⟩
    · -- `parm` matched: `=` and a value follow the name, which is the first test of `nextSpec`
      split at h
      · split at h
        next hv =>
          cases h
          exact ⟨_, by simp only [hv, if_true, grp, List.getD_cons_succ, List.getD_cons_zero], rfl⟩
        · cases h
      · cases h
    · -- `qparm` matched: `="` follows the name; a quote is no value character, so `nextSpec` goes on to its second test
      split at h
      · split at h
        next q e he =>
          cases h
          exact ⟨_, by simp only [List.takeWhile_cons, isTokChar_quote, List.length_nil, Nat.lt_irrefl, if_false, he, grp,
            List.getD_cons_succ, List.getD_cons_zero, Bool.false_eq_true], rfl⟩
        · cases h
      · cases h
    · -- `unparm`: the two arms of `nextSpec` that do not answer `.bare` are those in which `parm` or `qparm` matches
      cases h
      refine ⟨w + n, ?_, rfl⟩
      split
      · split
        next hv =>
          simp only [hv, if_true] at hp
          cases hp
        · split
          · split
            next e he =>
              simp only [he] at hq
              cases hq
            · rfl
          · rfl
      · rfl
    · cases h
    · cases h
  · -- no name: the first three patterns fail, and `qunparm` and `nextSpec` both look for a quoted string
    simp only [hn, if_false]
    refine ⟨fun _ h => ?_, fun _ h => ?_, fun _ _ _ h => ?_, fun _ g h => ?_, fun _ h => ?_⟩
    · cases h
    · cases h
    · cases h
    · split at h
      · split at h
        next q e he =>
          cases h
          exact ⟨_, by simp only [he, grp, List.getD_cons_succ, List.getD_cons_zero], rfl⟩
        · cases h
      · cases h
    · split
      · split
        next q e he =>
          simp only [he] at h
          cases h
        · rfl
      · rfl

/-- `text[len(mo.group(1)):]` -/
theorem drop_take_length (text : Text) (L : Nat) : text.drop (text.take L).length = text.drop L := by
  rw [List.length_take]
  rcases Nat.le_total L text.length with h | h
  · rw [Nat.min_eq_left h]
  · rw [Nat.min_eq_right h, List.drop_length, List.drop_eq_nil_of_le h]

/-- `type(p) is not ListType or p` on the repr of a default: everything but the empty list -/
theorem repr_list_test (d : String) : ((!reprIsList d) || reprTruthy d) = (d != "[]") := by
  unfold reprTruthy
  by_cases hm : ["None", "False", "0", "''", "\"\"", "[]", "()", "{}"].contains d = true
  · simp only [List.contains_eq_mem, List.mem_cons, List.not_mem_nil, or_false, decide_eq_true_eq] at hm
    rcases hm with h | h | h | h | h | h | h | h <;> subst h <;> decide +kernel
  · have hne : d ≠ "[]" := by
      rintro rfl
      exact hm (by decide +kernel)
    simp only [hm, Bool.not_false, Bool.or_true]
    exact (bne_iff_ne.mpr hne).symm

/-- one call of the model with the recursive call as a parameter -/
def modelStep (tbl : Table) (k : Text → Params → Except PErr Params) (text : Text) (res : Params) : Except PErr Params :=
  match nextSpec text with
  | .named name value len =>
    let nm := String.ofList (asciiLower name)
    match tbl.lookup nm with
    | none => .error ⟨"Invalid attribute name"⟩
    | some d =>
      if res.has nm && d != "[]" then .error ⟨"Duplicate values for attribute"⟩
      else
        let res := (res.filter (·.1 != nm)) ++ [(nm, .str value)]
        let rest := pyStrip (text.drop len)
        if rest.isEmpty then .ok res else k rest res
  | .bare word len =>
    let nm := String.ofList word
    if res.isEmpty then k (text.drop len) [("", .str word)]
    else
      match tbl.lookup nm with
      | none => .error ⟨"Invalid attribute name"⟩
      | some d =>
        if d = "None" then .error ⟨"Attribute requires a value"⟩
        else k (text.drop len) ((res.filter (·.1 != nm)) ++ [(nm, .dflt d)])
  | .quoted q len =>
    if res.isEmpty then k (text.drop len) [("", .str q)]
    else .error ⟨"Invalid attribute name"⟩
  | .blank => .ok res
  | .bad => .error ⟨"invalid parameter"⟩

theorem aux_succ (tbl : Table) (fuel : Nat) (text : Text) (res : Params) :
    parseParamsAux tbl (fuel + 1) text res = modelStep tbl (parseParamsAux tbl fuel) text res := by
  rfl

/-! #### every successful match consumes at least one character: the fuel of the model is never used up -/

/-- the number of characters a successful match reports as consumed -/
def consumed : Spec → Option Nat
  | .named _ _ len => some len
  | .bare _ len => some len
  | .quoted _ len => some len
  | .blank => none
  | .bad => none

theorem nextSpec_consumes (text : Text) (len : Nat) (h : consumed (nextSpec text) = some len) : 1 ≤ len := by
  unfold nextSpec at h
  simp only [] at h
  generalize (List.takeWhile isCtl text).length = w at h
  generalize List.drop w text = s at h
  generalize (List.takeWhile isTokChar s).length = n at h
  by_cases hn : n > 0
  · -- a name of `n > 0` characters: every arm reports `w + n` or more
    rw [if_pos hn] at h
    repeat' split at h
    all_goals (simp only [consumed, Option.some.injEq] at h; omega)
  · -- no name: only a quoted string reports a length, and its quotes are counted
    rw [if_neg hn] at h
    repeat' split at h
    · simp only [consumed, Option.some.injEq] at h; omega
    all_goals cases h

theorem nextSpec_nil : consumed (nextSpec []) = none := by decide

theorem rest_shorter (text : Text) (len : Nat) (h : consumed (nextSpec text) = some len) :
    (text.drop len).length < text.length := by
  have h1 := nextSpec_consumes text len h
  cases text with
  | nil => rw [nextSpec_nil] at h; cases h
  | cons c t =>
    rw [List.length_drop, List.length_cons]
    omega

/-- the recursive call is only ever made on a shorter text -/
theorem modelStep_congr (tbl : Table) (k1 k2 : Text → Params → Except PErr Params) (text : Text) (res : Params)
    (hk : ∀ t r, t.length < text.length → k1 t r = k2 t r) : modelStep tbl k1 text res = modelStep tbl k2 text res := by
  have hfun : ∀ t, t.length < text.length → k1 t = k2 t := fun t h => funext fun r => hk t r h
  unfold modelStep
  cases heq : nextSpec text with
  | named name value len =>
    dsimp only
    rw [hfun _ (Nat.lt_of_le_of_lt (pyStrip_length_le _) (rest_shorter text len (by rw [heq]; rfl)))]
  | bare word len =>
    dsimp only
    rw [hfun _ (rest_shorter text len (by rw [heq]; rfl))]
  | quoted q len =>
    dsimp only
    rw [hfun _ (rest_shorter text len (by rw [heq]; rfl))]
  | blank => rfl
  | bad => rfl

theorem aux_fuel_irrelevant (tbl : Table) : ∀ (f1 f2 : Nat) (text : Text) (res : Params),
    text.length < f1 → text.length < f2 → parseParamsAux tbl f1 text res = parseParamsAux tbl f2 text res := by
  intro f1
  induction f1 with
  | zero => intro f2 text res h; omega
  | succ f1 ih =>
    intro f2 text res h1 h2
    cases f2 with
    | zero => omega
    | succ f2 =>
      rw [aux_succ, aux_succ]
      exact modelStep_congr tbl _ _ text res (fun t r ht => ih f2 t r (by omega) (by omega))

/-- `v[1:-1]` -/
theorem slice_1_m1 (v : Text) : (v.take (v.length - 1)).drop 1 = (v.drop 1).dropLast := by
  rw [List.dropLast_eq_take, List.length_drop, List.drop_take]

/-- `v[-1:]` -/
theorem drop_length_sub_one : ∀ (v : Text), v.drop (v.length - 1) = v.getLast?.toList
  | [] => rfl
  | [a] => rfl
  | a :: b :: t => by
    rw [List.getLast?_cons_cons, ← drop_length_sub_one (b :: t)]
    simp only [List.length_cons, Nat.add_sub_cancel, List.drop_succ_cons]

/-- `v[:1] == '"' and v[-1:] == '"' and len(v) > 1` -/
theorem quoted_test (v : Text) :
    ((v.take 1 == ['"']) && (v.drop (v.length - 1) == ['"']) && decide (v.length > 1)) = isQuotedShorthand v := by
  unfold isQuotedShorthand
  rw [drop_length_sub_one]
  congr 1
  congr 1
  · cases v with
    | nil => rfl
    | cons c t => by_cases h : c = '"' <;> simp [h]
  · cases v.getLast? with
    | none => rfl
    | some c => by_cases h : c = '"' <;> simp [h]

end DTML.Lemmas.Params
