/-
Lemmas about the hand-written model of the dtml-tree expansion state (DTML/TreeState.lean), for Props/C20 and
Lemmas/TreeGen: lookup (`findId`) and well-formedness (`wfList`) of one level of a state; `setEntry`, the one update of
a level of which the three changes `applyDiff` makes are instances; a click (`applyDiff`) and the recorded paths
(`hasPath`) one level at a time (`applyDiff_cons`, `hasPath_cons`, `hasPath_applyDiff`).
-/
import DTML.TreeState
namespace DTML.Lemmas.TreeState
open DTML.TreeState

theorem findId_cons (k : St) (ks : List St) (a : Nat) :
    findId (k :: ks) a = if k.id == a then some k else findId ks a := by
  simp only [findId, List.find?_cons]
  split <;> simp_all

theorem findId_none_iff (kids : List St) (id : Nat) : findId kids id = none ↔ ∀ k ∈ kids, k.id ≠ id := by
  simp [findId, List.find?_eq_none]

/-- well-formed: below the first entry, its id not used again, and the rest -/
theorem wfList_cons (s : St) (ss : List St) :
    wfList (s :: ss) = true ↔ wfList s.kids = true ∧ findId ss s.id = none ∧ wfList ss = true := by
  rw [findId_none_iff]
  cases s with
  | node i k => simp [wfList, wfSt, St.kids, St.id, and_assoc]

/-! One level of a state is a finite map from ids to lists of sub-entries, looked up by `findId`.  `setEntry kids id r`
makes `r` the sub-entries found under `id` (`none`: no entry `id`); a new entry goes to the end.  The three ways
`applyDiff` changes a level are instances of it. -/

def setEntry : List St → Nat → Option (List St) → List St
  | [], id, r => (r.map (St.node id)).toList
  | k :: ks, id, r => if k.id == id then (r.map (St.node id)).toList ++ ks else k :: setEntry ks id r

theorem eraseId_eq_setEntry (kids : List St) (id : Nat) : eraseId kids id = setEntry kids id none := by
  induction kids with
  | nil => rfl
  | cons k ks ih =>
    simp only [eraseId, setEntry, ih]
    split <;> rfl

theorem modifyId_eq_setEntry (kids : List St) (id : Nat) (x : List St) (h : (findId kids id).isSome = true) :
    modifyId kids id (fun _ => St.node id x) = setEntry kids id (some x) := by
  induction kids with
  | nil => cases h
  | cons k ks ih =>
    rw [findId_cons] at h
    simp only [modifyId, setEntry]
    split
    next => rfl
    next hk =>
      rw [if_neg hk] at h
      rw [ih h]

theorem append_eq_setEntry (kids : List St) (id : Nat) (r : Option (List St)) (h : findId kids id = none) :
    kids ++ (r.map (St.node id)).toList = setEntry kids id r := by
  induction kids with
  | nil => rfl
  | cons k ks ih =>
    rw [findId_cons] at h
    split at h
    next => cases h
    next hk =>
      simp only [setEntry, hk, List.cons_append, ih h]
      rfl

/-- the level as a map after `setEntry`.  Removing needs a well-formed level: the entry removed has to be the only one
with its id. -/
theorem findId_setEntry (id a : Nat) (r : Option (List St)) :
    ∀ kids : List St, (r = none → wfList kids = true) →
      findId (setEntry kids id r) a = if id == a then r.map (St.node id) else findId kids a := by
  intro kids
  induction kids with
  | nil => intro _; cases r <;> simp [setEntry, findId, St.id.eq_1]
  | cons k ks ih =>
    intro hw
    have ih := ih fun h => ((wfList_cons k ks).mp (hw h)).2.2
    simp only [setEntry, findId_cons]
    by_cases hk : k.id = id
    · subst hk
      cases r with
      | none =>
        -- `k` goes: no other entry has its id
        have hu := ((wfList_cons k ks).mp (hw rfl)).2.1
        by_cases ha : k.id = a
        · simp [← ha, hu]
        · simp [ha]
      | some x => by_cases ha : k.id = a <;> simp [findId_cons, St.id.eq_1, ha]
    · by_cases ha : k.id = a
      · subst ha; simp [hk, findId_cons, Ne.symm hk]
      · simp [hk, findId_cons, ha, ih]

theorem wf_setEntry (id : Nat) (r : Option (List St)) (hr : ∀ x, r = some x → wfList x = true) :
    ∀ kids : List St, wfList kids = true → wfList (setEntry kids id r) = true := by
  intro kids
  induction kids with
  | nil =>
    intro _
    cases r with
    | none => rfl
    | some x => exact (wfList_cons _ []).mpr ⟨hr x rfl, rfl, rfl⟩
  | cons k ks ih =>
    intro hw
    obtain ⟨hk, hu, ht⟩ := (wfList_cons k ks).mp hw
    simp only [setEntry]
    split
    next he =>
      cases r with
      | none => exact ht
      | some x => exact (wfList_cons _ ks).mpr ⟨hr x rfl, eq_of_beq he ▸ hu, ht⟩
    next hne =>
      refine (wfList_cons k _).mpr ⟨hk, ?_, ih ht⟩
      rw [findId_setEntry _ _ _ _ fun _ => ht, if_neg (by rwa [BEq.comm])]
      exact hu

/-- the two tests of `applyDiff` - the click ends here and collapses; ids are left or the click expands - are
complementary -/
theorem ends_eq_not_more (rest : Path) (e : Bool) : (rest.isEmpty && !e) = !(!rest.isEmpty || e) := by
  rw [Bool.not_or, Bool.not_not]

/-- the sub-entries of the entry `id` (`[]` when there is no such entry) -/
def kidsOf (st : List St) (id : Nat) : List St := ((findId st id).map St.kids).getD []

theorem chainRest_eq_applyDiff (rest : Path) (e : Bool) : chainRest rest e = applyDiff [] rest e := by
  cases rest <;> simp [chainRest, applyDiff, findId]

/-- one level of a click: the entry `id` goes (a collapse click that ends here) or has the rest of the click applied
below it -/
theorem applyDiff_cons (st : List St) (id : Nat) (rest : Path) (e : Bool) :
    applyDiff st (id :: rest) e =
      setEntry st id (if rest.isEmpty && !e then none else some (applyDiff (kidsOf st id) rest e)) := by
  simp only [applyDiff, kidsOf]
  cases hf : findId st id with
  | some n =>
    simp only [Option.map_some, Option.getD_some]
    split
    · exact eraseId_eq_setEntry st id
    · exact modifyId_eq_setEntry st id _ (by simp [hf])
  | none =>
    rw [← append_eq_setEntry st id _ hf, chainRest_eq_applyDiff, ends_eq_not_more]
    cases (!rest.isEmpty || e) <;> simp

theorem hasPath_nil (q : Path) : hasPath [] q = q.isEmpty := by
  cases q <;> simp [hasPath, findId]

theorem wf_kidsOf (st : List St) (id : Nat) (hw : wfList st = true) : wfList (kidsOf st id) = true := by
  unfold kidsOf
  cases hf : findId st id with
  | none => rfl
  | some n =>
    induction st with
    | nil => simp [findId] at hf
    | cons k ks ih =>
      obtain ⟨hk, -, ht⟩ := (wfList_cons k ks).mp hw
      rw [findId_cons] at hf
      split at hf
      · cases hf; exact hk
      · exact ih ht hf

theorem hasPath_cons (st : List St) (id : Nat) (q : Path) :
    hasPath st (id :: q) = ((findId st id).isSome && hasPath (kidsOf st id) q) := by
  simp only [hasPath, kidsOf]
  cases findId st id <;> rfl

/-- one level of a click, seen through `hasPath`: below `id` the rest of the click has been applied (nothing is left
when the click removes the entry), the other entries are as they were -/
theorem hasPath_applyDiff (st : List St) (id a : Nat) (rest q : Path) (e : Bool)
    (hw : (rest.isEmpty && !e) = true → wfList st = true) :
    hasPath (applyDiff st (id :: rest) e) (a :: q) =
      if a = id then (!(rest.isEmpty && !e) && hasPath (applyDiff (kidsOf st id) rest e) q)
      else hasPath st (a :: q) := by
  rw [applyDiff_cons]
  simp only [hasPath]
  rw [findId_setEntry _ _ _ _ fun h => hw (by simpa using h)]
  by_cases ha : a = id
  · subst ha
    cases rest.isEmpty && !e <;> simp [St.kids.eq_1]
  · simp [ha, Ne.symm ha]

end DTML.Lemmas.TreeState
