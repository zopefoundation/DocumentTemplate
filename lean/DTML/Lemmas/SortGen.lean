/-
Abstraction maps between the translation of dtml-in's sort machinery (GenSort.lean, regenerated from DT_In.py on every
run) and the model of Sort.lean, and the lemmas the obligations of Props/C13 rest on.
-/
import DTML.GenSort
namespace DTML.Lemmas.SortGen
open DTML.Sort DTML.GenSort

/-! #### comparison results: Python's negative / zero / positive integer against `Ordering` -/

/-- what `cmp` hands back for an `Ordering` -/
def intOfOrd : Ordering → Int
  | .lt => -1
  | .eq => 0
  | .gt => 1

/-- how `functools.cmp_to_key` reads an integer -/
def ordOfInt (n : Int) : Ordering := if n < 0 then .lt else if n = 0 then .eq else .gt

theorem ordOfInt_intOfOrd (c : Ordering) : ordOfInt (intOfOrd c) = c := by cases c <;> rfl

theorem intOfOrd_then (c d : Ordering) :
    intOfOrd (c.then d) = if intOfOrd c ≠ 0 then intOfOrd c else intOfOrd d := by
  cases c <;> simp [intOfOrd, Ordering.then]

/-- the comparison function of a field (`cmp`, `nocase`, one from the namespace) on two keys, as the Python function
`SortBy` calls: the model's comparison of the field with the direction left out -/
def funcOf (lower : Text → Text) (kind : CmpKind) : PV → PV → Option Int
  | .key a, .key b => some (intOfOrd (cmpField lower ⟨kind, false⟩ a b))
  | _, _ => none

/-- the multiplier of a direction -/
def multOf (desc : Bool) : Int := if desc then -1 else 1

/-- the entry of `sf_list` a field of the model stands for -/
def sfOf (lower : Text → Text) (nf : Text × Field) : SortFn := ⟨nf.1, funcOf lower nf.2.kind, multOf nf.2.desc⟩

theorem cmpField_desc (lower : Text → Text) (k : CmpKind) (a b : Option Key) :
    cmpField lower ⟨k, true⟩ a b = (cmpField lower ⟨k, false⟩ a b).swap := by
  simp [cmpField]

/-- one round of the loop of `SortBy.__call__` on the keys of a field, `n = func(c1, c2); if n: return n * multiplier`:
the field's comparison decides unless it is `eq` -/
theorem field_round (lower : Text → Text) (f : Field) (a b : Option Key) (r : Option Int) :
    ((funcOf lower f.kind (.key a) (.key b)).bind fun n => if n ≠ 0 then some (n * multOf f.desc) else r) =
      if intOfOrd (cmpField lower f a b) ≠ 0 then some (intOfOrd (cmpField lower f a b)) else r := by
  obtain ⟨k, d⟩ := f
  simp only [funcOf, Option.bind_some]
  cases d
  · simp [multOf]
  · rw [cmpField_desc]
    cases cmpField lower ⟨k, false⟩ a b <;> simp [intOfOrd, multOf, Ordering.swap]

/-- the loop of `SortBy.__call__` from index `s` on is the model's comparison of the remaining fields, whatever the items
are that answer `o[i]` with the `i`-th key (the key lists of a multi-key sort; the `(key, client)` pair of a single key) -/
theorem loop_keys (lower : Text → Text) (nfs : List (Text × Field)) (o1 o2 : PV) (k1 k2 : List (Option Key))
    (h1 : k1.length = nfs.length) (h2 : k2.length = nfs.length)
    (ho1 : ∀ i < nfs.length, PV.index o1 i = (k1[i]?).map .key)
    (ho2 : ∀ i < nfs.length, PV.index o2 i = (k2[i]?).map .key) :
    ∀ (n s : Nat), s + n = nfs.length →
      sortByLoopGen (nfs.map (sfOf lower)) o1 o2 (List.range' s n) =
        some (intOfOrd (cmpKeys lower ((nfs.drop s).map (·.2)) (k1.drop s) (k2.drop s))) := by
  intro n
  induction n with
  | zero =>
    intro s hs
    rw [List.drop_eq_nil_of_le (by omega)]
    rfl
  | succ n ih =>
    intro s hs
    have hs0 : s < nfs.length := by omega
    rw [List.drop_eq_getElem_cons hs0, List.drop_eq_getElem_cons (l := k1) (by omega),
      List.drop_eq_getElem_cons (l := k2) (by omega), List.range'_succ, sortByLoopGen]
    simp only [ho1 s hs0, ho2 s hs0, List.getElem?_eq_getElem (l := k1) (i := s) (by omega),
      List.getElem?_eq_getElem (l := k2) (i := s) (by omega), List.getElem?_map, List.getElem?_eq_getElem hs0,
      Option.map_some, Option.bind_some, sfOf, ih (s + 1) (by omega), field_round, List.map_cons, cmpKeys,
      List.head?_cons, Option.join_some, List.tail_cons, intOfOrd_then]
    exact (apply_ite some ..).symm

/-! #### key extraction: what an `AttrVal` of the model stands for, and the key an extracted value is -/

/-- what `v.get(sk)` / `getattr(v, sk)` finds for an `AttrVal` of the model (`none`: no such key / attribute); `t`: the type of
a plain value, `rt`: the type of what a callable returns -/
def conc (t rt : PyType) : AttrVal → Option PyVal
  | .plain k => some (.val t k)
  | .noneVal => some .noneV
  | .missing => none
  | .callable k => some (.callable (.ret rt k))
  | .nonbasic k => some (.val .other k)

/-- the key of the model an extracted value is (`some none` = `_Smallest`); `none`: not a key of the model (None itself, a
function object) -/
def absKey : PyVal → Option (Option Key)
  | .smallest => some none
  | .val _ k => some (some k)
  | _ => none

/-- what the element answers under the name, through the interface `mapping` selects -/
def look (mapping : Bool) (v : PyObj) (name : Text) : Option PyVal := if mapping then v.items name else v.attrs name

theorem other_not_basic : basicTypes.contains PyType.other = false := by decide

/-- both interfaces hand back `None` where there is nothing under the name -/
theorem fetch_eq (mapping : Bool) (v : PyObj) (name : Text) :
    (if mapping = true then some (PyObj.get v name) else some (PyObj.getattr v name .noneV)) =
      some ((look mapping v name).getD .noneV) := by
  cases mapping <;> rfl

theorem single_conc (mapping : Bool) (v : PyObj) (sort : Text) (t rt : PyType) (a : AttrVal)
    (h : look mapping v sort = conc t rt a) :
    (extractKeySingleGen mapping v sort).bind absKey = some (extract a) := by
  simp only [extractKeySingleGen, fetch_eq, h, Option.bind_some]
  cases a with
  | plain k => cases t <;> rfl
  | _ => rfl

theorem multi_conc (mapping : Bool) (v : PyObj) (sk : Text) (t rt : PyType) (a : AttrVal) (ht : t ≠ .list)
    (h : look mapping v sk = conc t rt a) :
    (extractKeyMultiGen mapping v sk).bind absKey = some (extract a) := by
  simp only [extractKeyMultiGen, fetch_eq, h, Option.bind_some]
  cases a with
  | plain k => cases t <;> first | rfl | exact absurd rfl ht
  | _ => rfl

theorem keys_loop (mapping : Bool) (v : PyObj) (t rt : PyType) (ht : t ≠ .list) :
    ∀ (fas : List (Text × AttrVal)) (k : List PyVal), (∀ p ∈ fas, look mapping v p.1 = conc t rt p.2) →
      ∃ ks, extractKeysLoopGen mapping v k (fas.map (·.1)) = some (k ++ ks) ∧
        ks.map absKey = fas.map (fun p => some (extract p.2)) := by
  intro fas
  induction fas with
  | nil => intro k _; exact ⟨[], by simp [extractKeysLoopGen], rfl⟩
  | cons p fas ih =>
    intro k h
    have hp := multi_conc mapping v p.1 t rt p.2 ht (h p (List.mem_cons_self ..))
    cases hx : extractKeyMultiGen mapping v p.1 with
    | none => simp [hx] at hp
    | some x =>
      rw [hx] at hp
      obtain ⟨ks, h1, h2⟩ := ih (k ++ [x]) (fun q hq => h q (List.mem_cons_of_mem _ hq))
      refine ⟨x :: ks, ?_, ?_⟩
      · simp only [List.map_cons, extractKeysLoopGen, hx, Option.bind_some, h1, List.append_assoc, List.singleton_append]
      · simpa [h2] using hp

/-! #### make_sortfunctions: the entry of `sf_list` a parsed option stands for -/

def entryOf (s : FieldSpec) : SfEntry := (s.key, s.func, multOf s.desc)

theorem func_chain (fn : Text) :
    (if fn = "cmp".toList then .ok FuncRef.cmp
      else if fn = "nocase".toList then .ok FuncRef.nocase
      else if fn = "locale".toList ∨ fn = "strcoll".toList then .ok FuncRef.strcoll
      else if fn = "locale_nocase".toList ∨ fn = "strcoll_nocase".toList then .ok FuncRef.strcollNocase
      else .ok (FuncRef.named fn) : Except SortErr FuncRef) = .ok (funcOfName fn) := by
  simp only [funcOfName, apply_ite (Except.ok (ε := SortErr))]

theorem dir_chain (lower : Text → Text) (d : Text) (e : SortErr) :
    (if lower d = "asc".toList then .ok (1 : Int) else if lower d = "desc".toList then .ok (-(1 : Int)) else .error e :
      Except SortErr Int) = match descOfWord lower d with | some b => .ok (multOf b) | none => .error e := by
  unfold descOfWord
  split
  · rfl
  · split <;> rfl

theorem field_parts (lower : Text → Text) (field : Text) :
    (makeSortFieldGen lower field).toOption = (parseOption lower field).map entryOf := by
  unfold makeSortFieldGen parseOption
  generalize splitOn '/' field = f
  simp only [func_chain, dir_chain]
  -- what is left is the filling in of the defaults, by the number of parts
  rcases f with _ | ⟨k, _ | ⟨fn, _ | ⟨d, _ | ⟨x, r⟩⟩⟩⟩
  · rfl
  · simp [idx, Except.bind, parseParts, mkSpec]
    generalize descOfWord lower _ = o
    cases o <;> rfl
  · simp [idx, Except.bind, parseParts, mkSpec]
    generalize descOfWord lower _ = o
    cases o <;> rfl
  · simp [idx, Except.bind, parseParts, mkSpec]
    generalize descOfWord lower _ = o
    cases o <;> rfl
  · have h : ∀ n : Int, n ≤ 3 → ¬ (((k :: fn :: d :: x :: r).length : Int) = n) := by
      intro n hn
      simp only [List.length_cons]
      omega
    simp only [h 1 (by decide), h 2 (by decide), h 3 (by decide), if_false, parseParts, Except.bind, Except.toOption,
      Option.map_none]

/-- errors apart, `Except`'s sequencing is `Option`'s -/
theorem toOption_bind {ε α β : Type} (x : Except ε α) (f : α → Except ε β) :
    (x.bind f).toOption = x.toOption.bind fun a => (f a).toOption := by
  cases x <;> rfl

theorem fields_loop (lower : Text → Text) : ∀ (fs : List Text) (acc : List SfEntry),
    (makeSortFunctionsLoopGen lower acc fs).toOption =
      (parseOptions lower fs).map (fun l => acc ++ l.map entryOf) := by
  intro fs
  induction fs with
  | nil => intro acc; simp [makeSortFunctionsLoopGen, parseOptions, Except.toOption]
  | cons o os ih =>
    intro acc
    simp only [makeSortFunctionsLoopGen, toOption_bind, field_parts, ih, parseOptions]
    cases parseOption lower o with
    | none => rfl
    | some f => cases parseOptions lower os <;> simp

end DTML.Lemmas.SortGen
