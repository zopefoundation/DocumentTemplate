/-
Lemmas for Props/C20: the loops of the translated dtml-tree codec (GenTree.lean, generated from TreeTag.py on every
run) are the chunk lists of the model (TreeCodec.chunks); `find` + cut = `takeWhile`; the padding rule.
-/
import DTML.GenTree
import DTML.Lemmas.TreeCodec
namespace DTML.Lemmas.TreeCodecGen
open DTML.TreeCodec DTML.GenTree DTML.Lemmas.TreeCodec

/-- `for i in range(0, len(l), n): states.append(f(l[i:i + n]))` appends `f` of the chunks of `l` -/
theorem enc_loop {α β : Type} (n : Nat) (l : List α) (f : List α → β) (g : List β → Nat → List β)
    (hg : ∀ st i, g st i = st ++ [f (pySlice l i (i + n))]) :
    ∀ (fuel i : Nat) (acc : List β),
      (pyRangeAux l.length n fuel i).foldl g acc = acc ++ (chunksAux n fuel (l.drop i)).map f := by
  intro fuel
  induction fuel with
  | zero => intro i acc; simp [pyRangeAux, chunksAux]
  | succ fuel ih =>
    intro i acc
    unfold pyRangeAux
    by_cases h : i < l.length
    · have h1 : pySlice l i (i + n) = (l.drop i).take n := by rw [pySlice, Nat.add_sub_cancel_left]
      rw [if_pos h, chunksAux_cons _ _ _ (mt List.drop_eq_nil_iff.mp (by omega)), List.foldl_cons, ih, hg, List.drop_drop, h1]
      simp
    · rw [if_neg h, List.drop_of_length_le (by omega), chunksAux_nil]
      simp

/-- the encoder's loop as the source has it: `range(0, len(l), n)` from an empty list -/
theorem enc_loop_range {α β : Type} (n : Nat) (l : List α) (f : List α → β) (g : List β → Nat → List β)
    (hg : ∀ st i, g st i = st ++ [f (pySlice l i (i + n))]) :
    (pyRange 0 l.length n).foldl g [] = (chunks n l).map f := by
  unfold pyRange chunks
  rw [enc_loop n l f g hg]
  simp

/-- `j = 0; for i in range(m): k = j + n; states.append(f(l[j:k])); j = k` appends `f` of the `m` full chunks -/
theorem dec_loop {α β : Type} (n : Nat) (hn : 0 < n) (l : List α) (f : List α → β)
    (g : List β × Nat → Nat → List β × Nat)
    (hg : ∀ c i, g c i = (c.1 ++ [f (pySlice l c.2 (c.2 + n))], c.2 + n)) (m : Nat) :
    ∀ (fuel i j cf : Nat) (acc : List β), fuel ≤ cf → j + n * fuel ≤ l.length → i + fuel ≤ m →
      (pyRangeAux m 1 fuel i).foldl g (acc, j) =
        (acc ++ (chunksAux n cf ((l.drop j).take (n * fuel))).map f, j + n * fuel) := by
  intro fuel
  induction fuel with
  | zero => intro i j cf acc _ _ _; simp [pyRangeAux, chunksAux_nil]
  | succ fuel ih =>
    intro i j cf acc hcf hl hi
    match cf, hcf with
    | cf + 1, hcf =>
      have hmul : n * (fuel + 1) = n * fuel + n := Nat.mul_succ n fuel
      have hne : (l.drop j).take (n * (fuel + 1)) ≠ [] :=
        List.ne_nil_of_length_pos (by rw [List.length_take, List.length_drop]; omega)
      have h1 : ((l.drop j).take (n * (fuel + 1))).take n = pySlice l j (j + n) := by
        rw [List.take_take, pySlice, Nat.min_eq_left (by omega), Nat.add_sub_cancel_left]
      have h2 : ((l.drop j).take (n * (fuel + 1))).drop n = (l.drop (j + n)).take (n * fuel) := by
        rw [List.drop_take, List.drop_drop, hmul, Nat.add_sub_cancel]
      unfold pyRangeAux
      rw [if_pos (by omega), chunksAux_cons _ _ _ hne, List.foldl_cons, hg, h1, h2,
        ih (i + 1) (j + n) cf _ (by omega) (by omega) (by omega)]
      have h3 : j + n + n * fuel = j + (n * fuel + n) := by omega
      simp [hmul, h3]

/-- the decoder's loop as the source has it: `range(m)` from `([], 0)`, `m` full chunks being there -/
theorem dec_loop_range {α β : Type} (n : Nat) (hn : 0 < n) (l : List α) (f : List α → β)
    (g : List β × Nat → Nat → List β × Nat)
    (hg : ∀ c i, g c i = (c.1 ++ [f (pySlice l c.2 (c.2 + n))], c.2 + n)) (m : Nat) (hm : m * n ≤ l.length) :
    (pyRange 0 m 1).foldl g ([], 0) = ((chunks n (l.take (m * n))).map f, m * n) := by
  unfold pyRange chunks
  have hmn : m * n = n * m := Nat.mul_comm m n
  rw [dec_loop n hn l f g hg m m 0 0 (l.take (m * n)).length [] (by
    rw [List.length_take, Nat.min_eq_left hm, hmn]; exact Nat.le_mul_of_pos_left m hn) (by omega) (by omega)]
  simp [hmn]

/-- `l_ = s.find(c); if l_ >= 0: s = s[:l_]` cuts at the first `c` -/
theorem find_cut (c : Char) (s : List Char) :
    (if pyFind s c ≥ 0 then pySliceTo s (pyFind s c) else s) = s.takeWhile (· != c) := by
  have hp : (fun a : Char => !(a != c)) = (· == c) := by funext a; simp [bne]
  rw [List.takeWhile_eq_take_findIdx_not, hp, pyFind]
  cases h : s.findIdx? (· == c) with
  | none => rw [List.findIdx?_eq_none_iff_findIdx_eq.mp h, List.take_length]; rfl
  | some i => rw [(List.findIdx?_eq_some_iff_findIdx_eq.mp h).2]; simp [pySliceTo]

/-- `k = len(s) % 4; if k: s = s + b'=' * (4 - k)` in front of what follows it -/
theorem pad_gen {β : Type} (s : List Char) (F : List Char → β) :
    (if s.length % 4 ≠ 0 then F (s ++ List.replicate ((4 : Int) - ((s.length % 4 : Nat) : Int)).toNat '=') else F s) =
      F (pad s) := by
  unfold pad
  by_cases h : s.length % 4 = 0
  · simp [h]
  · rw [if_pos h, if_neg h]
    congr 3
    omega

theorem finishDecode_eq {State : Type} (decompress : Bytes → Bytes) (loads : Bytes → Option State) (empty : State)
    (o : Option Bytes) :
    finishDecode decompress loads empty o = o.map (fun b => (loads (decompress b)).getD empty) := by
  unfold finishDecode
  congr 1

end DTML.Lemmas.TreeCodecGen
