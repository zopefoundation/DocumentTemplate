/-
Facts about the run-time library of DTML/GenStack.lean (Python's list indexing and slice assignment on ints), as far as
`TemplateDict._pop` uses them, and with them the translated `_push` / `_pop` in closed form (`foldl_pushGen`, `popGen_eq`).
-/
import DTML.GenStack
namespace DTML.Lemmas.Stack
open DTML.Render DTML.GenStack

/-- `xs[len(xs) - 1]` is the last element (IndexError on the empty list: `xs[-1]`) -/
theorem pyGet_last {α : Type} (xs : List α) : pyGet xs ((xs.length : Int) - 1) = xs.getLast? := by
  cases xs with
  | nil => simp [pyGet]
  | cons x t =>
    have h1 : ¬ (((x :: t).length : Int) - 1 < 0) := by simp only [List.length_cons]; omega
    have h2 : (((x :: t).length : Int) - 1).toNat = (x :: t).length - 1 := by omega
    simp only [pyGet, h1, if_false, h2, List.getLast?_eq_getElem?]

/-- `xs[len(xs) - k : len(xs)] = []` cuts the last `k` elements off, for `k ≤ len(xs)` -/
theorem pySliceSet_cut {α : Type} (xs : List α) (k : Nat) (hk : k ≤ xs.length) :
    pySliceSet xs (some ((xs.length : Int) - (k : Int))) (some (xs.length : Int)) [] = xs.take (xs.length - k) := by
  have h1 : ¬ ((xs.length : Int) - (k : Int) < 0) := by omega
  have h2 : ¬ ((xs.length : Int) - (k : Int) > (xs.length : Int)) := by omega
  have h3 : ((xs.length : Int) - (k : Int)).toNat = xs.length - k := by omega
  have h4 : ¬ ((xs.length : Int) < 0) := by omega
  have h5 : ¬ (xs.length < xs.length - k) := by omega
  simp [pySliceSet, pyClip, h1, h2, h3, h4, h5]

theorem foldl_pushGen (fs : List Frame) : ∀ (td : TD), fs.foldl pushGen td = { td with data := td.data ++ fs } := by
  induction fs with
  | nil => intro td; simp
  | cons f t ih => intro td; simp [List.foldl_cons, ih, pushGen]

/-- `_pop(k)` of a non-empty namespace, `k` up to its size: the top is handed back, the last `k` data sources are cut off -/
theorem popGen_eq (self : TD) (k : Nat) (hk : k ≤ self.data.length) {r : Frame} (hl : self.data.getLast? = some r) :
    popGen self (k : Int) = some (r, { self with data := self.data.take (self.data.length - k) }) := by
  simp only [popGen, pyGet_last, hl, pySliceSet_cut self.data k hk]

/-- past the size of the namespace `_pop` is NOT `drop`: Python wraps the negative lower bound of the slice round -/
example : pySliceSet [1, 2, 3] (some ((3 : Int) - 4)) (some 3) [] = [1, 2] := by decide

end DTML.Lemmas.Stack
