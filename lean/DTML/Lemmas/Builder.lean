/-
One iteration of the block builder `Parse.buildAux` as a function of its own: `stepTok` is what the builder does with one
token, on the five accumulators packed into a `BState`; `buildAux_cons` says so.  Props/C01 (literals), Props/C06 (errors)
and Props/C07 (spellings) prove their facts about `buildAux` one step at a time.  The iteration `runToks` is in Props/C06,
and this file declares into that namespace: its definitions are `C06.BState`, `C06.stepTok`, as DESIGN.md names them.
-/
import DTML.Parse
namespace DTML.Props.C06
open DTML.Scan DTML.Parse

structure BState where
  idx : Nat
  aft : Bool
  stack : List Frame
  top : List Node
  ex : List ExprUse

def BState.init : BState := ⟨0, false, [], [], []⟩

def stepTok (syn : Syntax) (σ : BState) (p : Text × Tok) : Except Located BState :=
  let lit := if σ.aft then skipEol p.1 else p.1
  let ctx := σ.stack.head?.map (fun f => (f.cmd, f.sargs))
  match tagRole syn p.2 ctx with
  | .error e => .error ⟨e, σ.idx⟩
  | .ok role =>
    match role with
    | .start cmd args =>
      if cmd.isBlock then
        let st := pushNodes (litNode lit) σ.stack σ.top
        let fr : Frame := { cmd := cmd, sargs := args, startTok := σ.idx, done := [], curName := cmd.name, curArgs := args, cur := [] }
        .ok ⟨σ.idx + 1, true, fr :: st.1, st.2, σ.ex⟩
      else
        match checkSimple cmd args with
        | .error e => .error ⟨e, σ.idx⟩
        | .ok b =>
          let fmt := if syn = .epfs then p.2.fmt else ['s']
          let st := pushNodes (litNode lit ++ [.simple cmd b fmt]) σ.stack σ.top
          .ok ⟨σ.idx + 1, false, st.1, st.2, σ.ex ++ b.exprs⟩
    | .cont name args =>
      match σ.stack with
      | [] => .error ⟨⟨"Unexpected tag"⟩, σ.idx⟩
      | f :: fs =>
        let body := ((litNode lit).reverse ++ f.cur).reverse
        let f' := { f with done := f.done ++ [⟨f.curName, f.curArgs, body⟩], curName := name,
                            curArgs := args, cur := [] }
        .ok ⟨σ.idx + 1, true, f' :: fs, σ.top, σ.ex⟩
    | .close _ =>
      match σ.stack with
      | [] => .error ⟨⟨"unexpected end tag"⟩, σ.idx⟩
      | f :: fs =>
        let body := ((litNode lit).reverse ++ f.cur).reverse
        let secs := f.done ++ [⟨f.curName, f.curArgs, body⟩]
        match checkBlock f.cmd (secs.map fun s => (s.tname, s.args)) with
        | .error e => .error ⟨e, f.startTok⟩
        | .ok b =>
          let st := pushNodes [.block f.cmd b secs] fs σ.top
          .ok ⟨σ.idx + 1, true, st.1, st.2, σ.ex ++ b.exprs⟩

/-- one iteration of the builder is `stepTok` -/
theorem buildAux_cons (syn : Syntax) (p : Text × Tok) (ps : List (Text × Tok)) (tl : Text) (σ : BState) :
    buildAux syn (p :: ps) tl σ.idx σ.aft σ.stack σ.top σ.ex =
      (match stepTok syn σ p with
       | .error e => .error e
       | .ok σ' => buildAux syn ps tl σ'.idx σ'.aft σ'.stack σ'.top σ'.ex) := by
  obtain ⟨idx, aft, stack, top, ex⟩ := σ
  obtain ⟨lit, tk⟩ := p
  simp only [buildAux, stepTok]
  cases tagRole syn tk (stack.head?.map (fun f => (f.cmd, f.sargs))) with
  | error e => rfl
  | ok role =>
    cases role with
    | start cmd args =>
      dsimp only
      by_cases hb : cmd.isBlock = true
      · rw [if_pos hb, if_pos hb]
      · rw [if_neg hb, if_neg hb]
        cases checkSimple cmd args <;> rfl
    | cont name args => cases stack <;> rfl
    | close a =>
      cases stack with
      | nil => rfl
      | cons f fs =>
        dsimp only
        cases checkBlock f.cmd _ <;> rfl

end DTML.Props.C06
