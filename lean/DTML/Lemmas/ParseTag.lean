/-
Lemmas for the obligations on the translated `HTML.parseTag` / `String.parseTag` / `String._parseTag`
(GenParseTag.lean, regenerated from DT_HTML.py / DT_String.py on every run): the generated definitions are proved equal to
`Parse.tagRole`, the function `buildAux` consumes and the theorems of Props/C06 and Props/C07 are stated about.
-/
import DTML.GenParseTag
namespace DTML.Lemmas.ParseTag
open DTML.Scan DTML.Parse DTML.GenParseTag

theorem ofName_eq_some {n : String} {c : Cmd} (h : Cmd.ofName n = some c) : n = c.name := by
  unfold Cmd.ofName at h
  split at h <;> cases h <;> rfl

/-- the row of a command in the table regenerated from `String.commands`: under its name, with its continuations -/
theorem commands_row (c : Cmd) : Gen.commands.lookup c.name = some (c.name, c.continuations) := by
  cases c <;> decide +kernel

/-- `self.commands[name]` through the regenerated table is the model's `Cmd.ofName`, for every string -/
theorem commandsGet_eq (n : String) : commandsGet n = Cmd.ofName n := by
  unfold commandsGet
  cases hc : Cmd.ofName n with
  | some c =>
    -- the name of a command is a key of the table, and its entry names that command
    have hn := ofName_eq_some hc
    subst hn
    rw [commands_row]
    exact hc
  | none =>
    -- every key of the table is the name of a command, so `n` is no key
    have keys : ∀ p ∈ Gen.commands, (Cmd.ofName p.1).isSome = true := by decide +kernel
    have : Gen.commands.lookup n = none := List.lookup_eq_none_iff.mpr fun p hp => bne_iff_ne.mpr fun h => by
      have := keys p hp
      rw [← h, hc] at this
      cases this
    rw [this]
    rfl

theorem toList_ofList (l : List Char) : (String.ofList l).toList = l := by simp

/-- `sargs[l:l+1] in ' \\t\\n'`: a substring test on a slice of at most one character -/
theorem subText_one (s : Text) (l : Nat) :
    subText ((s.take (l + 1)).drop l) " \t\n".toList =
      (match (s.drop l).head? with
       | none => true
       | some c => c = ' ' || c = '\t' || c = '\n') := by
  rw [List.drop_take]
  cases h : s.drop l with
  | nil => simp [subText]
  | cons c t => rw [Bool.eq_iff_iff]; simp [subText, List.isPrefixOf, or_assoc]

/-- the test of the `else` special case as the source spells it (slices, `len`, `in`) = `elseMatches` -/
theorem else_test (args sargs : Text) :
    ((args == sargs) || ((args == (sargs.take args.length)) &&
      (subText ((sargs.take (args.length + 1)).drop args.length) " \t\n".toList))) = elseMatches args sargs := by
  unfold elseMatches
  rw [subText_one]
  congr 2
  rw [Bool.eq_iff_iff]
  simp [List.prefix_iff_eq_take]

theorem blockContinuations_eq (c : Cmd) : blockContinuations c = c.continuations.getD [] := by
  unfold blockContinuations
  rw [commands_row]
  rfl

/-- `String._parseTag` hands on what `self.parseTag` returns (the lazily imported class is the command itself) -/
theorem wrapGen_eq (p : Tok → Option Cmd → Text → Except PErr TagRole) (tk : Tok) (c : Option Cmd) (s : Text) :
    wrapGen p tk c s = p tk c s := by
  unfold wrapGen lazyImport
  cases p tk c s with
  | error e => rfl
  | ok role => cases role <;> rfl

/-- `HTML.parseTag` as translated = the model's `tagRole .html`; `ctx` = the innermost open block (its command and
start-tag arguments), absent at top level (the defaults `command=None, sargs=''`) -/
theorem html_eq (tk : Tok) (ctx : Option (Cmd × Text)) :
    parseTagHtmlGen tk (ctx.map (·.1)) ((ctx.map (·.2)).getD []) = tagRole .html tk ctx := by
  unfold parseTagHtmlGen tagRole
  simp only [commandsGet_eq, blockContinuations_eq, else_test]
  cases tk.isEnd with
  | true =>
    -- an end tag: the source tests `!=` and has the two arms the other way round
    cases ctx with
    | none => rfl
    | some p => simp
  | false =>
    simp only [Bool.false_eq_true, if_false]
    cases ctx with
    | none => cases Cmd.ofName (String.ofList tk.name) <;> rfl
    | some p =>
      obtain ⟨c, sargs⟩ := p
      generalize String.ofList tk.name = name
      generalize pyStrip tk.args = args
      by_cases h1 : name ∈ c.continuations.getD []
      · by_cases h2 : name = "else"
        · -- `else` where the open block continues with `else`: the source nests its three tests, the model joins them
          subst h2
          have : Cmd.ofName "else" = some .else_ := by decide +kernel
          by_cases h3 : args = [] <;> by_cases h4 : elseMatches args sargs = false <;>
            simp [h1, h3, h4, this]
        · simp [h1, h2]
      · simp only [Option.map_some, List.contains_iff_mem, h1, if_false]
        cases Cmd.ofName name <;> rfl

/-- `String.parseTag` as translated = the model's `tagRole .epfs` -/
theorem epfs_eq (tk : Tok) (ctx : Option (Cmd × Text)) :
    parseTagEpfsGen tk (ctx.map (·.1)) ((ctx.map (·.2)).getD []) = tagRole .epfs tk ctx := by
  unfold parseTagEpfsGen tagRole
  have hargs : (if !((if !(tk.args).isEmpty then (pyStrip tk.args) else tk.args)).isEmpty then
      (if !(tk.args).isEmpty then (pyStrip tk.args) else tk.args) else "".toList) = pyStrip tk.args := by
    cases h : tk.args with
    | nil => simp [pyStrip]
    | cons a t => simp
  have e1 : "]".toList = [']'] := rfl
  have e2 : "[".toList = ['['] := rfl
  have e3 : "!".toList = ['!'] := rfl
  have e4 : " ".toList = [' '] := rfl
  have hvar : Cmd.ofName "var" = some .var := rfl
  -- the tests on `fmt` are spelt `==` in the source and `=` in the model
  simp only [commandsGet_eq, blockContinuations_eq, else_test, hargs, e1, e2, e3, e4, hvar, beq_iff_eq, Bool.or_eq_true,
    decide_eq_true_eq]
  -- `[` and `!` open or continue a block exactly as a `<dtml-…>` start tag does
  have hopen := html_eq { tk with isEnd := false } ctx
  unfold parseTagHtmlGen tagRole at hopen
  simp only [commandsGet_eq, blockContinuations_eq, else_test, Bool.false_eq_true, if_false] at hopen
  generalize pyStrip tk.args = args at hopen ⊢
  by_cases hf1 : tk.fmt = [']']
  · rw [if_pos hf1, if_pos hf1]
    cases ctx <;> simp
  · rw [if_neg hf1, if_neg hf1]
    by_cases hf2 : tk.fmt = ['['] ∨ tk.fmt = ['!']
    · rw [if_pos hf2, if_pos hf2]
      exact hopen
    · rw [if_neg hf2, if_neg hf2]
      cases args <;> simp

/-- `self._parseTag(mo, scommand, sa)` of the class of a syntax: `String._parseTag` around the class's own `parseTag` -/
def parseTagGen : Syntax → Tok → Option Cmd → Text → Except PErr TagRole
  | .html => fun tk c s => wrapGen @parseTagHtmlGen tk c s
  | .epfs => fun tk c s => wrapGen @parseTagEpfsGen tk c s

theorem parseTagGen_eq (syn : Syntax) (tk : Tok) (ctx : Option (Cmd × Text)) :
    parseTagGen syn tk (ctx.map (·.1)) ((ctx.map (·.2)).getD []) = tagRole syn tk ctx := by
  cases syn
  · simp only [parseTagGen, wrapGen_eq, html_eq]
  · simp only [parseTagGen, wrapGen_eq, epfs_eq]

end DTML.Lemmas.ParseTag
