/-
The equations of the interpreter (DTML/Render.lean).  Every function of the mutual block is `(.oom, st)` without fuel
(`raiseClass`: `(none, st)`); with fuel it runs its sub-computations in sequence.  Where a function does more than hand on to
another, its equation is stated here with the sequencing written by three combinators (`andThen`, `always`, `withSt`), so
that a property of all outcomes needs one lemma per combinator (Lemmas/Invariant.lean, Lemmas/FuelOrder.lean) instead of
one case split per call site; the functions that only dispatch (`getitem`, `evalSrc`, the literal and comment blocks …)
are rewritten with their own definitions.  Where the last step only computes a result, it is written `(result, s)` with
the case analysis inside the first component: that the state is handed on as it is can then be read off (and is `rfl`).
-/
import DTML.Lemmas.Lookup
namespace DTML.Render

/-- sequencing: `k` continues an `ok`; an exception, a `dtml-return` and "out of fuel" pass through with their state -/
def andThen {α β : Type} (x : Res α × St) (k : α → St → Res β × St) : Res β × St :=
  match x with
  | (.ok a, s) => k a s
  | (.raise e, s) => (.raise e, s)
  | (.ret v, s) => (.ret v, s)
  | (.oom, s) => (.oom, s)

/-- `k` continues every outcome but "out of fuel" (exception handlers, `finally`) -/
def always {α β : Type} (x : Res α × St) (k : Res α → St → Res β × St) : Res β × St :=
  match x with
  | (.oom, s) => (.oom, s)
  | (r, s) => k r s

/-- the outcome as it is, the state adjusted (frames popped, level restored) -/
def withSt {α : Type} (x : Res α × St) (g : St → St) : Res α × St := (x.1, g x.2)

/-- unless the fuel ran out, `always` hands the outcome on -/
theorem always_of_ne_oom {α β : Type} {x : Res α × St} {k : Res α → St → Res β × St} (h : x.1 ≠ .oom) :
    always x k = k x.1 x.2 := by
  obtain ⟨r, s⟩ := x
  cases r <;> first | rfl | exact absurd rfl h

theorem andThen_eq_ok {α β : Type} {x : Res α × St} {k : α → St → Res β × St} {b : β} {s' : St} :
    andThen x k = (.ok b, s') ↔ ∃ a s, x = (.ok a, s) ∧ k a s = (.ok b, s') := by
  constructor
  · intro h
    obtain ⟨r, s⟩ := x
    cases r with
    | ok a => exact ⟨a, s, rfl, h⟩
    | _ => cases h
  · rintro ⟨a, s, rfl, h⟩
    exact h

/-! ### without fuel: `(.oom, st)` by definition (`rfl`); named for the three functions other files rewrite at fuel 0 -/

theorem evalSrc_zero (env : Env) (s : Src) (st : St) : evalSrc env 0 s st = (.oom, st) := rfl
theorem inLoop_zero (env : Env) (sv : SeqVars) (o : InOpts) (body : List Blk) (i : Nat) (st : St) :
    inLoop env 0 sv o body i st = (.oom, st) := rfl
theorem inLoopB_zero (env : Env) (sv : SeqVars) (o : InOpts) (w : BWin) (body : List Blk) (i : Nat) (st : St) :
    inLoopB env 0 sv o w body i st = (.oom, st) := rfl

/-! ### the small functions that finish a result leave the state alone, and `oneRes` / `callResult` go inside `andThen` /
`withSt`; `callResult`, defined here, is one of them -/

@[simp] theorem insertVal_snd (env : Env) (hq : Bool) (null : Option Text) (v : Val) (st : St) :
    (insertVal env hq null v st).2 = st := by
  unfold insertVal
  generalize (null.isSome && !truthy v && (match v with | .int _ => false | .bool _ => false | _ => true)) = c
  cases c
  · cases hq
    · rfl
    · cases htmlQuote env (pieceOfVal v) <;> rfl
  · rfl

@[simp] theorem joinRes_snd (env : Env) (r : Res (List Piece)) (st : St) : (joinRes env r st).2 = st := by
  unfold joinRes
  split
  · split <;> rfl
  all_goals rfl

@[simp] theorem oneRes_snd (r : Res Piece × St) : (oneRes r).2 = r.2 := by
  obtain ⟨r, s⟩ := r
  cases r <;> rfl

theorem oneRes_andThen {α : Type} (x : Res α × St) (k : α → St → Res Piece × St) :
    oneRes (andThen x k) = andThen x fun a s => oneRes (k a s) := by
  obtain ⟨r, s⟩ := x
  cases r <;> rfl

@[simp] theorem join2_snd (env : Env) (p q : Piece) (st : St) : (join2 env p q st).2 = st := by
  unfold join2
  split <;> rfl

/-- what a template call makes of the outcome of its blocks: `dtml-return` ends the template with that value -/
def callResult (env : Env) (x : Res (List Piece) × St) : Res Val × St :=
  match x with
  | (.ok ps, st) =>
    (match joinPieces env ps with
     | .ok p => (.ok (valOfPiece p), st)
     | .raise e => (.raise e, st)
     | _ => (.oom, st))
  | (.ret v, st) => (.ok v, st)
  | (.raise e, st) => (.raise e, st)
  | (.oom, st) => (.oom, st)

@[simp] theorem callResult_snd (env : Env) (x : Res (List Piece) × St) : (callResult env x).2 = x.2 := by
  unfold callResult
  split
  · split <;> rfl
  all_goals rfl

theorem callResult_withSt (env : Env) (x : Res (List Piece) × St) (g : St → St) :
    callResult env (withSt x g) = withSt (callResult env x) g := by
  obtain ⟨r, s⟩ := x
  cases r with
  | ok ps =>
    dsimp only [callResult, withSt]
    cases joinPieces env ps <;> rfl
  | _ => rfl

/-- case analysis on the outcome of the sub-computation `t`: one goal for each of `ok`, `raise`, `ret`, `oom` -/
macro "outcome " t:term : tactic => `(tactic| (generalize $t = x; obtain ⟨r, s⟩ := x; cases r))

/-! ### the sorting step (no fuel: a key is read or called, never rendered): its equations, then what decorating, `sortDec`
and the order of the keys do -/

section Sorting
variable (env : Env)

theorem sortKeys_cons (m : Bool) (k : Text) (x : Val) (xs : List Val) (st : St) :
    sortKeys env m k (x :: xs) st =
      andThen (sortKeyOf env m k x st) fun key s =>
        andThen (sortKeys env m k xs s) fun r s' => (.ok ((key, x) :: r), s') := by
  rw [sortKeys]
  outcome sortKeyOf env m k x st
  · simp only [andThen]
    outcome sortKeys env m k xs _ <;> rfl
  all_goals rfl

theorem sortPart_some (o : InOpts) (x : InXOpts) (k : Text) (xs : List Val) (st : St) (hk : x.sortKey = some k) :
    sortPart env o x xs st =
      andThen (sortKeys env o.mapping k xs st) fun dec s =>
        (if decide (dec.length ≥ 2) && !sortable (dec.map (·.1)) then .raise ⟨"TypeError".toList, []⟩
         else .ok ((sortDec dec).map (·.2)), s) := by
  rw [sortPart, hk]
  dsimp only
  outcome sortKeys env o.mapping k xs st <;> try rfl
  dsimp only [andThen]
  split <;> rfl

theorem arrange_eq (o : InOpts) (x : InXOpts) (xs : List Val) (st : St) :
    arrange env o x xs st =
      andThen (sortPart env o x xs st) fun ys s => (.ok (if x.reverse then ys.reverse else ys), s) := by
  rw [arrange]
  outcome sortPart env o x xs st <;> rfl

/-- decorating keeps every element, in order -/
theorem sortKeys_elements (m : Bool) (k : Text) : ∀ (xs : List Val) (st st' : St) (dec : List (SKey × Val)),
    sortKeys env m k xs st = (.ok dec, st') → dec.map (·.2) = xs
  | [], st, st', dec, h => by
    simp only [sortKeys, Prod.mk.injEq, Res.ok.injEq] at h
    rw [← h.1]; rfl
  | x :: xs, st, st', dec, h => by
    rw [sortKeys_cons, andThen_eq_ok] at h
    obtain ⟨key, s1, _, h⟩ := h
    rw [andThen_eq_ok] at h
    obtain ⟨r, s2, hr, h⟩ := h
    cases h
    simp [sortKeys_elements m k xs s1 _ r hr]

theorem sortDec_perm (dec : List (SKey × Val)) : (sortDec dec).Perm dec :=
  ((List.reverse_perm _).append (List.mergeSort_perm _ _)).trans (List.filter_append_perm _ dec)

/-- `textLe` is the lexicographic order of `List Char`, which orders characters by code point -/
theorem textLe_iff : ∀ a b : Text, textLe a b = true ↔ a ≤ b
  | [], b => by simp [textLe]
  | _ :: _, [] => by simp [textLe]
  | a :: as, b :: bs => by
    rw [List.cons_le_cons_iff, ← textLe_iff as bs, ← Char.toNat_inj, textLe]
    show _ ↔ a.toNat < b.toNat ∨ _
    split
    · simp [*]
    · split
      · simp
        omega
      · have : a.toNat = b.toNat := by omega
        simp [*]

theorem textLe_total (a b : Text) : textLe a b = true ∨ textLe b a = true := by
  rw [textLe_iff, textLe_iff]; exact List.le_total a b

theorem textLe_trans (a b c : Text) : textLe a b = true → textLe b c = true → textLe a c = true := by
  rw [textLe_iff, textLe_iff, textLe_iff]; exact List.le_trans

/-- `_Smallest` is below every key -/
theorem SKey.smallest_le (k : SKey) : SKey.le .smallest k = true := by
  cases k <;> rfl

end Sorting

/-! ### the handler search of dtml-try (`match_base` counts its own depth) -/

/-- one level of `match_base`: some direct base is named `name`, or has a base of that name `fuel` levels further up -/
theorem matchBase_succ (env : Env) (fuel : Nat) (cls name : Text) :
    matchBase env (fuel + 1) cls name = true ↔
      ∃ bases, env.classes.lookup cls = some bases ∧ ∃ b ∈ bases, b = name ∨ matchBase env fuel b name = true := by
  rw [matchBase]
  cases env.classes.lookup cls <;> simp

/-! ### with fuel: the sub-computations in sequence -/

section Succ
variable (env : Env) (n : Nat)

/-- the frames a sub-template pushes: its construction-time variables on top of its globals -/
def subFrames (t : Template) : List Frame :=
  (if t.vars.isEmpty then [] else [Frame.dict t.vars]) ++ (if t.globals.isEmpty then [] else [Frame.dict t.globals])

theorem callSub_succ (id : Nat) (st : St) :
    callSub env (n + 1) id st =
      match env.templates[id]? with
      | none => (.raise ⟨"TypeError".toList, []⟩, st)
      | some t =>
        if st.level > 200 then
          (.raise ⟨"SystemError".toList, "infinite recursion in document template".toList⟩, st)
        else
          callResult env <|
            withSt (renderBlocks env n t.blocks { st with stack := subFrames t ++ st.stack, level := st.level + 1 })
              fun s => { s with stack := s.stack.drop (subFrames t).length, level := st.level } := by
  rw [callSub]
  cases env.templates[id]? with
  | none => rfl
  | some t =>
    refine congrArg (ite _ _) ?_
    simp only [subFrames, List.append_assoc, List.length_append, Nat.add_comm, withSt]
    outcome renderBlocks env n t.blocks _ <;> rfl

/-- a top-level call: the blocks rendered in `callStack` at level 1, the outcome made into a result as for a template invoked
by name (`callSub_succ`) -/
theorem topCall_eq (fuel : Nat) (t : Template) (c : CallArgs) :
    topCall env fuel t c = callResult env (renderBlocks env fuel t.blocks { stack := callStack t c, level := 1 }) := by
  unfold topCall callResult
  dsimp only
  outcome renderBlocks env fuel t.blocks { stack := callStack t c, level := 1 } <;> rfl

theorem fetchVar_succ (s : Src) (hq : Bool) (null : Option Text) (st : St) :
    fetchVar env (n + 1) s hq null st = andThen (evalSrc env n s st) (insertVal env hq null) := by
  rw [fetchVar]
  outcome evalSrc env n s st <;> rfl

theorem renderBlocks_cons (b : Blk) (rest : List Blk) (st : St) :
    renderBlocks env (n + 1) (b :: rest) st =
      andThen (renderBlk env n b st) fun ps s =>
        andThen (renderBlocks env n rest s) fun qs s => (.ok (ps ++ qs), s) := by
  rw [renderBlocks]
  outcome renderBlk env n b st <;> try rfl
  dsimp only [andThen]
  outcome renderBlocks env n rest _ <;> rfl

/-- `renderBlocks_cons` read backwards, for a list that renders -/
theorem renderBlocks_cons_ok (b : Blk) (rest : List Blk) (st st1 : St) (ps : List Piece)
    (h : renderBlocks env (n + 1) (b :: rest) st = (.ok ps, st1)) :
    ∃ p1 sx p2, renderBlk env n b st = (.ok p1, sx) ∧ renderBlocks env n rest sx = (.ok p2, st1) ∧ ps = p1 ++ p2 := by
  rw [renderBlocks_cons, andThen_eq_ok] at h
  obtain ⟨p1, sx, hx, h⟩ := h
  obtain ⟨p2, s2, hr, h⟩ := andThen_eq_ok.mp h
  cases h
  exact ⟨p1, sx, p2, hx, hr, rfl⟩

/-- the body of a block that pushed one frame: that frame is popped whatever the outcome -/
def popFrame (s : St) : St := { s with stack := s.stack.drop 1 }

theorem withFrame_succ (f : Frame) (body : List Blk) (st : St) :
    withFrame env (n + 1) f body st = withSt (renderBlocks env n body { st with stack := f :: st.stack }) popFrame := by
  rw [withFrame]
  rfl

theorem renderJoined_succ (body : List Blk) (st : St) :
    renderJoined env (n + 1) body st = andThen (renderBlocks env n body st) fun ps s => joinRes env (.ok ps) s := by
  rw [renderJoined]
  outcome renderBlocks env n body st <;> rfl

theorem framed_succ (f : Frame) (body : List Blk) (st : St) :
    framed env (n + 1) f body st = andThen (withFrame env n f body st) fun ps s => joinRes env (.ok ps) s := by
  rw [framed]
  outcome withFrame env n f body st <;> rfl

theorem evalExpr_name (k : Text) (st : St) :
    evalExpr env (n + 1) (.name k) st =
      always (getitem env n k false st) fun r s =>
        ((match r with
          | .raise e => if e.cls = "KeyError".toList then .raise ⟨"NameError".toList, k⟩ else .raise e
          | r => r), s) := by
  rw [evalExpr]
  outcome getitem env n k false st <;> try rfl
  dsimp only [always]
  split <;> rfl

theorem evalExpr_not (a : Expr) (st : St) :
    evalExpr env (n + 1) (.not a) st = andThen (evalExpr env n a st) fun v s => (.ok (.bool (!truthy v)), s) := by
  rw [evalExpr]
  outcome evalExpr env n a st <;> rfl

theorem evalExpr_eq (a b : Expr) (st : St) :
    evalExpr env (n + 1) (.eq a b) st =
      andThen (evalExpr env n a st) fun va s =>
        andThen (evalExpr env n b s) fun vb s => (.ok (.bool (valBeq 3 va vb)), s) := by
  rw [evalExpr]
  outcome evalExpr env n a st <;> try rfl
  dsimp only [andThen]
  outcome evalExpr env n b _ <;> rfl

theorem evalExpr_call (f : Expr) (st : St) :
    evalExpr env (n + 1) (.call f) st =
      andThen (evalExpr env n f st) fun v s =>
        match v with
        | .fn id r => invoke env id r s
        | _ => (.raise ⟨"TypeError".toList, []⟩, s) := by
  rw [evalExpr]
  outcome evalExpr env n f st <;> try rfl
  case ok v => cases v <;> rfl

theorem evalExpr_attr (a : Expr) (name : Text) (st : St) :
    evalExpr env (n + 1) (.attr a name) st =
      andThen (evalExpr env n a st) fun v s =>
        match v with
        | .obj id attrs =>
          (if env.guardOn && isDenied env id name then .raise (unauthorized name)
           else match attrs.lookup name with
             | some v => .ok v
             | none => .raise ⟨"AttributeError".toList, name⟩,
           if env.guardOn then { s with trace := s.trace ++ [.guard id name] } else s)
        | _ => (.raise ⟨"AttributeError".toList, name⟩, s) := by
  rw [evalExpr]
  outcome evalExpr env n a st <;> try rfl
  case ok v =>
    cases v <;> try rfl
    case obj id attrs =>
      dsimp only [andThen]
      cases env.guardOn && isDenied env id name
      · cases attrs.lookup name <;> rfl
      · rfl

/-- a subscription reads its operand and changes nothing -/
theorem evalExpr_item (a : Expr) (k : Val) (st : St) :
    evalExpr env (n + 1) (.item a k) st =
      andThen (evalExpr env n a st) fun v s =>
        ((match v, k with
          | .dict kvs, .str t => (match kvs.lookup t with
              | some v => .ok v
              | none => .raise (keyError t))
          | .dict _, _ => .raise (keyError [])
          | .list xs, .int i => (match (if i ≥ 0 then xs[i.toNat]? else none) with
              | some v => .ok v
              | none => .raise ⟨"IndexError".toList, []⟩)
          | _, _ => .raise ⟨"TypeError".toList, []⟩), s) := by
  rw [evalExpr]
  outcome evalExpr env n a st <;> try rfl
  case ok v =>
    cases v <;> try rfl
    all_goals
      cases k <;> try rfl
      dsimp only [andThen]
      split <;> simp only [*]

/-- `cache[n] = v` / the binding of a dtml-let: an entry of the dictionary on top of the namespace -/
def bindTop (n : Text) (v : Val) (st : St) : St :=
  match st.stack with
  | .dict kvs :: fs => { st with stack := .dict (kvs.filter (·.1 != n) ++ [(n, v)]) :: fs }
  | _ => st

/-- the branch an `'i'` block takes on the value of a condition -/
def condBranch (v : Val) (body : List Blk) (rest : List (Src × List Blk)) (els : Option (List Blk)) (st : St) :
    Res (List Piece) × St :=
  if truthy v then renderBlocks env n body st else condLoop env n rest els st

theorem condLoop_name (k : Text) (body : List Blk) (rest : List (Src × List Blk)) (els : Option (List Blk)) (st : St) :
    condLoop env (n + 1) ((.name k, body) :: rest) els st =
      always (getitem env n k true st) fun r s =>
        match r with
        | .ok v => condBranch env n v body rest els (bindTop k v s)
        | .raise e =>
          if e.cls = "KeyError".toList && e.msg = k then condBranch env n .none body rest els s else (.raise e, s)
        | .ret v => (.ret v, s)
        | .oom => (.oom, s) := by
  rw [condLoop]
  outcome getitem env n k true st <;> rfl

theorem condLoop_expr (e : Expr) (body : List Blk) (rest : List (Src × List Blk)) (els : Option (List Blk)) (st : St) :
    condLoop env (n + 1) ((.expr e, body) :: rest) els st =
      andThen (evalExpr env n e st) fun v s => condBranch env n v body rest els s := by
  rw [condLoop]
  outcome evalExpr env n e st <;> rfl

/-- is element `i` a string?  (nothing is pushed for it: an InstanceDict of a string would be of no use) -/
def textItem (sv : SeqVars) (i : Nat) : Bool :=
  match sv.items[i]? with
  | some (.str _) => true | some (.bytes _) => true | _ => false

theorem inIter_succ (sv : SeqVars) (o : InOpts) (body : List Blk) (i : Nat) (st : St) :
    inIter env (n + 1) sv o body i st =
      if o.noPush then renderJoined env n body st
      else if o.mapping then
        framed env n (match seqItem sv i with | .dict kvs => Frame.dict kvs | _ => Frame.bad) body st
      else if textItem sv i then renderJoined env n body st
      else framed env n (.inst (seqItem sv i) []) body st := by
  rw [inIter]
  rfl

/-- `pkw[...] = ...` inside a loop: the sequence variables on top of the namespace are replaced -/
def setSeq (sv : SeqVars) (st : St) : St :=
  match st.stack with
  | .seq _ :: fs => { st with stack := .seq sv :: fs }
  | _ => st

/-- with a guard installed every element is fetched through `guarded_getitem(sequence, index)` -/
def fetchItem (i : Nat) (st : St) : St :=
  if env.guardOn then { st with trace := st.trace ++ [.gitem 0 i] } else st

/-- one element of either loop of dtml-in.  The element is fetched; a refused element is skipped (the loop `k` goes on
with `svSkip`) or ends the loop; otherwise the body is rendered on the variables `svItem`, stored on top of the namespace,
and `k` goes on with `svNext` -/
def loopItem (o : InOpts) (body : List Blk) (i : Nat) (denied : Bool) (svSkip svItem svNext : SeqVars)
    (k : SeqVars → St → Res (List Piece) × St) (st : St) : Res (List Piece) × St :=
  if denied then
    (if o.skipUnauth then k svSkip (fetchItem env i st)
     else (.raise ⟨"Unauthorized".toList, "item".toList⟩, fetchItem env i st))
  else
    andThen (inIter env n svItem o body i (setSeq svItem (fetchItem env i st))) fun p s =>
      andThen (k svNext s) fun ps s => (.ok (p :: ps), s)

/-- the variables a pass hands on matter only through what the rest of the loop makes of them -/
theorem loopItem_congr {o : InOpts} {body : List Blk} {i : Nat} {denied : Bool} {svSkip svSkip' svItem svNext svNext' : SeqVars}
    {k k' : SeqVars → St → Res (List Piece) × St} (hSkip : ∀ s, k svSkip s = k' svSkip' s)
    (hNext : ∀ s, k svNext s = k' svNext' s) (st : St) :
    loopItem env n o body i denied svSkip svItem svNext k st = loopItem env n o body i denied svSkip' svItem svNext' k' st := by
  unfold loopItem
  simp only [hSkip, hNext]

theorem inLoop_succ (sv : SeqVars) (o : InOpts) (body : List Blk) (i : Nat) (st : St) :
    inLoop env (n + 1) sv o body i st =
      if i ≥ sv.items.length then (.ok [], st)
      else
        let sv' := { sv with index := i, ended := sv.ended || i + 1 == sv.items.length, started := startedAt env o sv i }
        loopItem env n o body i (itemDenied env sv i) sv sv' sv' (fun sv s => inLoop env n sv o body (i + 1) s) st := by
  rw [inLoop]
  -- the same two tests on both sides, with the same first branches
  refine congrArg (ite _ _) (congrArg (ite _ _) ?_)
  dsimp only [setSeq, fetchItem]
  outcome inIter env n _ o body i _ <;> try rfl
  dsimp only [andThen]
  outcome inLoop env n _ o body (i + 1) _ <;> rfl

theorem inLoopB_succ (sv : SeqVars) (o : InOpts) (w : BWin) (body : List Blk) (i : Nat) (st : St) :
    inLoopB env (n + 1) sv o w body i st =
      if i ≥ w.stop then (.ok [], st)
      else
        let sv1 := batchStep sv w i
        let sv2 := { sv1 with index := i }
        loopItem env n o body i (itemDenied env sv1 i) (afterItem sv1 w i) sv2 (afterItem sv2 w i)
          (fun sv s => inLoopB env n sv o w body (i + 1) s) st := by
  rw [inLoopB]
  refine congrArg (ite _ _) (congrArg (ite _ _) ?_)
  dsimp only [setSeq, fetchItem]
  outcome inIter env n _ o body i _ <;> try rfl
  dsimp only [andThen]
  outcome inLoopB env n _ o w body (i + 1) _ <;> rfl

/-- the elements of a loop joined by `join_unicode` (the result of the tag, not yet a list of pieces) -/
def joinedPiece (ps : List Piece) (st : St) : Res Piece × St :=
  match joinUnicode env ps with
  | .ok p => (.ok p, st)
  | .raise e => (.raise e, st)
  | _ => (.oom, st)

@[simp] theorem joinedPiece_snd (ps : List Piece) (st : St) : (joinedPiece env ps st).2 = st := by
  unfold joinedPiece
  split <;> rfl

/-- the else part of a dtml-in, joined; nothing when there is none -/
def elsePart (els : Option (List Blk)) (st : St) : Res Piece × St :=
  match els with
  | some e => renderJoined env n e st
  | none => (.ok (.text []), st)

theorem inBatch_succ (sv0 : SeqVars) (o : InOpts) (bp : BatchP) (w : BWin) (body : List Blk) (els : Option (List Blk))
    (cache : List Frame) (st : St) :
    inBatch env (n + 1) sv0 o bp w body els cache st =
      let svN := { sv0 with noIndex := true }
      let on (sv : SeqVars) : St := { st with stack := (Frame.seq sv :: cache) ++ st.stack }
      withSt
        (if bp.previous then
           (if w.first > 0 then renderJoined env n body (on (prevInfo svN w true)) else elsePart env n els (on svN))
         else if bp.next then
           (if moreAfter sv0 w then renderJoined env n body (on (nextInfo svN w true)) else elsePart env n els (on svN))
         else andThen (inLoopB env n sv0 o w body w.first (on sv0)) (joinedPiece env))
        fun s => { s with stack := s.stack.drop (cache.length + 1) } := by
  unfold inBatch
  refine congrArg (fun x : Res Piece × St => (x.1, { x.2 with stack := x.2.stack.drop (cache.length + 1) })) ?_
  refine congrArg (ite _ _) (congrArg (ite _ _) ?_)
  outcome inLoopB env n sv0 o w body w.first _ <;> rfl

theorem resolveNames_cons (p nm : Text) (rest : List (Text × Text)) (bp : BatchP) (bad : Bool) (st : St) :
    resolveNames env (n + 1) ((p, nm) :: rest) bp bad st =
      always (getitem env n nm true st) fun r s =>
        let default : Res (BatchP × Bool) → Res (BatchP × Bool) × St := fun r =>
          if p == "start".toList then resolveNames env n rest (setParam bp p 1) bad s else (r, s)
        match r with
        | .ok v =>
          (match paramInt v with
           | .ok i => resolveNames env n rest (setParam bp p i) bad s
           | .bad => resolveNames env n rest bp true s
           | .valueError => default (.raise ⟨"ValueError".toList, [Char.ofNat 0xFFFF]⟩))
        | .raise e => default (.raise e)
        | .ret v => default (.ret v)
        | .oom => (.oom, s) := by
  rw [resolveNames]
  outcome getitem env n nm true st <;> rfl

theorem evalSortKey_succ (x : InXOpts) (st : St) :
    evalSortKey env (n + 1) x st =
      match x.sortExpr with
      | none => (.ok x.sortKey, st)
      | some e =>
        andThen (evalExpr env n e st) fun v s =>
          ((match v with
            | .str t => .ok (some t)
            | _ => .raise ⟨"AttributeError".toList, "find".toList⟩), s) := by
  rw [evalSortKey]
  cases x.sortExpr with
  | none => rfl
  | some e =>
    dsimp only
    outcome evalExpr env n e st <;> try rfl
    case ok v => cases v <;> rfl

theorem evalReverse_succ (x : InXOpts) (st : St) :
    evalReverse env (n + 1) x st =
      match x.reverseExpr with
      | none => (.ok x.reverse, st)
      | some e => andThen (evalExpr env n e st) fun v s => (.ok (truthy v || x.reverse), s) := by
  rw [evalReverse]
  cases x.reverseExpr with
  | none => rfl
  | some e =>
    dsimp only
    outcome evalExpr env n e st <;> rfl

theorem letLoop_nil (body : List Blk) (st : St) :
    letLoop env (n + 1) [] body st = oneRes (renderJoined env n body st) := by
  rw [letLoop]

theorem letLoop_cons (k : Text) (src : Src) (rest : List (Text × Src)) (body : List Blk) (st : St) :
    letLoop env (n + 1) ((k, src) :: rest) body st =
      andThen (evalSrc env n src st) fun v s => letLoop env n rest body (bindTop k v s) := by
  rw [letLoop]
  outcome evalSrc env n src st <;> rfl

/-- the class a dtml-raise raises, as an outcome: `raiseClass` says "out of fuel" by `none` -/
def classOf (x : Option Text × St) : Res Text × St :=
  ((match x.1 with
    | none => .oom
    | some c => .ok c), x.2)

/-- `raiseClass` evaluates at most one expression; only the class it names depends on the outcome -/
theorem raiseClass_succ (cls : Text) (clsExpr : Option Expr) (st : St) :
    classOf (raiseClass env (n + 1) cls clsExpr st) =
      match clsExpr with
      | none => (.ok (if (env.classes.lookup cls).isSome then cls else "RuntimeError".toList), st)
      | some e =>
        always (evalExpr env n e st) fun r s =>
          (.ok (match r with
             | .ok (.exc c _) => c
             | .ok _ => "AttributeError".toList
             | _ => if (env.classes.lookup cls).isSome then cls else "InvalidErrorTypeExpression".toList), s) := by
  unfold raiseClass
  cases clsExpr with
  | none => rfl
  | some e =>
    dsimp only
    outcome evalExpr env n e st <;> try rfl
    case ok v => cases v <;> rfl

theorem renderBlk_call (src : Src) (st : St) :
    renderBlk env (n + 1) (.call src) st =
      andThen (withSt (condLoop env n [(src, [])] none { st with stack := .dict [] :: st.stack }) popFrame)
        fun _ s => (.ok [], s) := by
  rw [renderBlk]
  outcome condLoop env n [(src, [])] none _ <;> rfl

theorem renderBlk_cond (conds : List (Src × List Blk)) (els : Option (List Blk)) (st : St) :
    renderBlk env (n + 1) (.cond conds els) st =
      withSt (condLoop env n conds els { st with stack := .dict [] :: st.stack }) popFrame := by
  rw [renderBlk]
  rfl

theorem renderBlk_unless (src : Src) (body : List Blk) (st : St) :
    renderBlk env (n + 1) (.unless_ src body) st =
      withSt (condLoop env n [(src, [])] (some body) { st with stack := .dict [] :: st.stack }) popFrame := by
  rw [renderBlk]
  rfl

theorem renderBlk_let (binds : List (Text × Src)) (body : List Blk) (st : St) :
    renderBlk env (n + 1) (.let_ binds body) st =
      withSt (letLoop env n binds body { st with stack := .dict [] :: st.stack }) popFrame := by
  rw [renderBlk]
  rfl

theorem renderBlk_ret (src : Src) (st : St) :
    renderBlk env (n + 1) (.ret src) st = andThen (evalSrc env n src st) fun v s => (.ret v, s) := by
  rw [renderBlk]
  outcome evalSrc env n src st <;> rfl

theorem renderBlk_raise (cls : Text) (clsExpr : Option Expr) (body : List Blk) (st : St) :
    renderBlk env (n + 1) (.raise_ cls clsExpr body) st =
      andThen (classOf (raiseClass env n cls clsExpr st)) fun c s =>
        always (renderJoined env n body s) fun r s =>
          ((match r with
            | .ok p => .raise ⟨c, ustr (valOfPiece p)⟩
            | .raise _ => .raise ⟨c, "Invalid Error Value".toList⟩
            | .ret v => .ret v
            | .oom => .oom), s) := by
  rw [renderBlk]
  generalize raiseClass env n cls clsExpr st = x
  obtain ⟨c, s⟩ := x
  cases c with
  | none => rfl
  | some c =>
    dsimp only [classOf, andThen]
    outcome renderJoined env n body s <;> rfl

theorem renderBlk_tryFin (body fin : List Blk) (st : St) :
    renderBlk env (n + 1) (.tryFin body fin) st =
      always (renderJoined env n body st) fun r s =>
        andThen (renderJoined env n fin s) fun q s =>
          match r with
          | .ok p => join2 env p q s
          | .raise e => (.raise e, s)
          | .ret v => (.ret v, s)
          | .oom => (.oom, s) := by
  rw [renderBlk]
  outcome renderJoined env n body st <;> try rfl
  all_goals
    dsimp only [always, andThen]
    outcome renderJoined env n fin _ <;> rfl

theorem renderBlk_try (body : List Blk) (handlers : List (Text × List Blk)) (els : Option (List Blk)) (st : St) :
    renderBlk env (n + 1) (.try_ body handlers els) st =
      always (renderJoined env n body st) fun r s =>
        match r with
        | .ok p =>
          (match els with
           | none => (.ok (if pieceEmpty p then [] else [p]), s)
           | some e => andThen (renderJoined env n e s) fun q s => join2 env p q s)
        | .ret v => (.ret v, s)
        | .oom => (.oom, s)
        | .raise ex =>
          (match findHandler env handlers ex.cls with
           | none => (.raise ex, s)
           | some h =>
             let internal := ["TypeError", "AttributeError", "NameError", "IndexError", "UnicodeDecodeError",
                              "Unauthorized"].map String.toList
             let msg := if internal.contains ex.cls then [Char.ofNat 0xFFFF] else ex.msg
             let ns : Val := .obj 0 [("error_type".toList, .str ex.cls), ("error_value".toList, .exc ex.cls msg),
                                    ("error_tb".toList, .str "traceback".toList)]
             oneRes (framed env n (.inst ns []) h s)) := by
  rw [renderBlk]
  outcome renderJoined env n body st <;> try rfl
  dsimp only [always]
  cases els with
  | none => rfl
  | some e =>
    dsimp only
    outcome renderJoined env n e _ <;> rfl

/-- the frame dtml-with pushes for the value of its expression -/
def withFrameOf (mapping : Bool) (v : Val) : Frame :=
  if mapping then (match v with
    | .dict kvs => .dict kvs
    | _ => .bad)
  else .inst (match v with | .tuple [x] => x | v => v) []

theorem renderBlk_with (src : Src) (mapping only : Bool) (body : List Blk) (st : St) :
    renderBlk env (n + 1) (.with_ src mapping only body) st =
      andThen (evalSrc env n src st) fun v s =>
        if only then
          oneRes (withSt (renderJoined env n body { s with stack := [withFrameOf mapping v], level := 0 })
            fun s2 => { s2 with stack := s.stack, level := s.level })
        else oneRes (framed env n (withFrameOf mapping v) body s) := by
  rw [renderBlk]
  outcome evalSrc env n src st <;> rfl

/-- what dtml-in iterates over: the elements of a list or tuple, the keys of a mapping -/
def itemsOf : Val → Option (List Val)
  | .list xs => some xs
  | .tuple xs => some xs
  | .dict kvs => some (kvs.map fun kv => Val.str kv.1)
  | _ => none

/-- an unbatched loop (`renderwob`) from the point where the sequence variables (and the cache of a named sequence) are
pushed: they are popped whatever the outcome, the pieces joined -/
def loopAll (sv : SeqVars) (o : InOpts) (body : List Blk) (cache : List Frame) (st : St) : Res (List Piece) × St :=
  andThen
    (withSt (inLoop env n sv o body 0 { st with stack := (Frame.seq sv :: cache) ++ st.stack })
      fun s => { s with stack := s.stack.drop (cache.length + 1) })
    fun ps s => oneRes (joinedPiece env ps s)

/-- dtml-in before the loop: the sequence is evaluated; something that is no sequence is an error, an empty one
renders the else part -/
def inPrologue (src : Src) (els : Option (List Blk)) (st : St) (k : Val → List Val → St → Res (List Piece) × St) :
    Res (List Piece) × St :=
  andThen (evalSrc env n src st) fun v s =>
    match itemsOf v with
    | none =>
      (.raise (match v with
        | .str _ => ⟨"ValueError".toList, "Strings are not allowed as input to the in tag.".toList⟩
        | _ => ⟨"TypeError".toList, []⟩), s)
    | some [] => oneRes (elsePart env n els s)
    | some xs => k v xs s

/-- the end of the `.in_` / `.inx_` cases, as Render.lean writes it, is `loopAll` -/
theorem loopAll_eq (sv : SeqVars) (o : InOpts) (body : List Blk) (cache : List Frame) (st : St) :
    (let (r, st2) := inLoop env n sv o body 0 { st with stack := (Frame.seq sv :: cache) ++ st.stack }
     let st3 := { st2 with stack := st2.stack.drop (Frame.seq sv :: cache).length }
     (match r with
      | .ok ps =>
        (match joinUnicode env ps with
         | .ok p => (.ok (if pieceEmpty p then [] else [p]), st3)
         | .raise e => (.raise e, st3)
         | _ => (.oom, st3))
      | .raise e => (.raise e, st3)
      | .ret x => (.ret x, st3)
      | .oom => (.oom, st3))) = loopAll env n sv o body cache st := by
  unfold loopAll withSt
  outcome inLoop env n sv o body 0 _ <;> try rfl
  dsimp only [andThen, joinedPiece]
  cases joinUnicode env _ <;> rfl

theorem renderBlk_in (src : Src) (o : InOpts) (body : List Blk) (els : Option (List Blk)) (st : St) :
    renderBlk env (n + 1) (.in_ src o body els) st =
      inPrologue env n src els st fun v xs s =>
        loopAll env n { items := xs, mapping := o.mapping, prefix_ := o.prefix_ } o body (cacheOf src v) s := by
  rw [renderBlk]
  unfold inPrologue
  outcome evalSrc env n src st <;> try rfl
  case ok s v =>
    dsimp only [andThen]
    -- Render.lean computes `itemsOf v` in place; once it has its name, a list, a tuple and a mapping are one case
    conv =>
      lhs
      arg 2
      change itemsOf v
    cases itemsOf v with
    | none => cases v <;> rfl
    | some xs =>
      cases xs with
      | nil => cases els <;> rfl
      | cons x xs => cases src <;> exact loopAll_eq env n _ o body _ s

/-- a batched rendering once the sequence is arranged: the parameters given by name are resolved, `QUERY_STRING` is
looked up (whatever that does is swallowed), then `inBatch` -/
def batched (o : InOpts) (x : InXOpts) (bp0 : BatchP) (body : List Blk) (els : Option (List Blk)) (sv : SeqVars)
    (cache : List Frame) (st : St) : Res (List Piece) × St :=
  andThen (resolveNames env n x.names bp0 false st) fun pb s =>
    if pb.2 then (.raise ⟨"TypeError".toList, []⟩, s)
    else
      let w := bwinOf pb.1 sv.items.length
      always (getitem env n (txt "QUERY_STRING") true s) fun _ s =>
        oneRes (inBatch env n (batchInit sv w) o pb.1 w body els cache s)

theorem renderBlk_inx (src : Src) (o : InOpts) (x : InXOpts) (body : List Blk) (els : Option (List Blk)) (st : St) :
    renderBlk env (n + 1) (.inx_ src o x body els) st =
      inPrologue env n src els st fun v xs s =>
        andThen (evalSortKey env n x s) fun key s =>
          andThen (sortPart env o { x with sortKey := key } xs s) fun sorted s =>
            andThen (evalReverse env n x s) fun rev s =>
              let sv : SeqVars := { items := applyReverse rev sorted, mapping := o.mapping, prefix_ := o.prefix_ }
              match x.batch with
              | none => loopAll env n sv o body (cacheOf src v) s
              | some bp0 => batched env n o x bp0 body els sv (cacheOf src v) s := by
  rw [renderBlk]
  unfold inPrologue
  outcome evalSrc env n src st <;> try rfl
  case ok s v =>
    dsimp only [andThen]
    -- as in `renderBlk_in`
    conv =>
      lhs
      arg 2
      change itemsOf v
    cases itemsOf v with
    | none => cases v <;> rfl
    | some xs =>
      cases xs with
      | nil => cases els <;> rfl
      | cons y ys =>
        outcome evalSortKey env n x s <;> try rfl
        dsimp only
        outcome sortPart env o _ _ _ <;> try rfl
        dsimp only
        outcome evalReverse env n x _ <;> try rfl
        cases x.batch with
        | none => exact loopAll_eq env n _ o body _ _
        | some bp0 =>
          dsimp only [batched, andThen]
          outcome resolveNames env n x.names bp0 false _ <;> try rfl
          dsimp only
          refine congrArg (ite _ _) ?_
          dsimp only [always]
          outcome getitem env n (txt "QUERY_STRING") true _ <;> rfl

end Succ

end DTML.Render
