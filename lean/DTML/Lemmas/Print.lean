/-
Printing and re-scanning: a document printed from a list of (literal, tag) items — in the
`<dtml-…>` spelling or in the `<!--#…-->` spelling — is scanned back into exactly these items.
Helper lemmas for Props/C01 (literal text comes back verbatim from the source text itself) and
Props/C07 (the spellings of a whole document give the same token stream).  The spellings differ in the markers only:
one tag is recognised by `angle_printed`, whatever the markers, and a document by `tokensAux_printed`, whatever the printer.
-/
import DTML.Lemmas.Scanner
namespace DTML.Lemmas.Print
open DTML.Scan DTML.Lemmas.Scanner

/-- literal text in which no tag can start -/
def CleanLit (l : Text) : Prop := ∀ c ∈ l, c ≠ '<' ∧ c ≠ '&'

theorem CleanLit.plain {l : Text} (h : CleanLit l) : ∀ x ∈ l, (x = '<' || x = '&') = false :=
  fun x hx => by simp [(h x hx).1, (h x hx).2]

theorem scan_clean (l : Text) (h : CleanLit l) : scan .html l = none := by
  have := scan_plain l [] h.plain
  rwa [List.append_nil, scan_nil] at this

/-- what follows the name in a tag body: nothing for empty arguments, else one blank and the arguments -/
def sepArgs (a : Text) : Text := if a = [] then [] else ' ' :: a

def WfName (n : Text) : Prop := n ≠ [] ∧ ∀ c ∈ n, isAsciiAlpha c = true

/-- arguments as `strip()` leaves them, not starting with a control character -/
def WfArgs (a : Text) : Prop := pyStrip a = a ∧ ∀ c, a.head? = some c → isCtl c = false

theorem sepArgs_head (a : Text) (c : Char) (h : (sepArgs a).head? = some c) : c = ' ' := by
  unfold sepArgs at h
  split at h
  · simp at h
  · simpa using h.symm

/-- `name_match` on a name of letters, then blanks, then text that starts with neither: the name and the blanks -/
theorem nameMatchLen_name (n sp t : Text) (hn : WfName n) (hsp : ∀ c ∈ sp, c = ' ')
    (ht1 : ∀ c, t.head? = some c → isCtl c = false) (ht2 : ∀ c, (sp ++ t).head? = some c → isAsciiAlpha c = false) :
    nameMatchLen (n ++ (sp ++ t)) = some (n.length + sp.length) := by
  have hw1 : (n ++ (sp ++ t)).takeWhile isCtl = [] := by
    cases n with
    | nil => exact (hn.1 rfl).elim
    | cons c u => simp [alpha_not_ctl c (hn.2 c (List.mem_cons_self ..))]
  have hl : (n ++ (sp ++ t)).takeWhile isAsciiAlpha = n := takeWhile_all_append _ _ _ hn.2 ht2
  have hw2 : (sp ++ t).takeWhile isCtl = sp :=
    takeWhile_all_append _ _ _ (fun c hc => by rw [hsp c hc]; rfl) ht1
  unfold nameMatchLen
  simp only [hw1, List.length_nil, List.drop_zero, Nat.zero_add, hl, List.drop_left', hw2]
  rw [if_neg (fun h0 => hn.1 (List.eq_nil_of_length_eq_zero h0))]

structure Item where
  lit : Text
  isEnd : Bool
  name : Text
  args : Text

def body (i : Item) : Text := i.name ++ sepArgs i.args

/-- `<dtml-name args>` / `</dtml-name args>` -/
def printDtml (i : Item) : Text := (if i.isEnd then "</dtml-".toList else "<dtml-".toList) ++ body i ++ ['>']

def tokOf (text : Text) (i : Item) : Tok := { text := text, isEnd := i.isEnd, name := i.name, args := i.args }

/-- what the `<dtml-…>` spelling needs: a clean literal, a name of letters, stripped arguments in
which every `>` is inside a quoted string and the quotes are balanced (`gtQuoted`, `qwalk`: Lemmas/Scanner.lean) -/
def WfDtml (i : Item) : Prop :=
  CleanLit i.lit ∧ WfName i.name ∧ WfArgs i.args ∧ gtQuoted i.args 1 true = true ∧ qwalk i.args true = true

theorem body_head (i : Item) (h : WfDtml i) (t : Text) : ∀ c, (body i ++ t).head? = some c → isCtl c = false := by
  obtain ⟨_, ⟨hne, hal⟩, _⟩ := h
  intro d hd
  unfold body at hd
  cases hn : i.name with
  | nil => exact (hne hn).elim
  | cons c u =>
    rw [hn] at hd hal
    cases hd
    exact alpha_not_ctl _ (hal _ (List.mem_cons_self ..))

/-- the `>` that was printed is the one that closes the tag -/
theorem findClose_body (i : Item) (h : WfDtml i) (rest : Text) :
    findClose (body i ++ '>' :: rest) = some (body i).length := by
  obtain ⟨_, ⟨hne, hal⟩, _, hg, hq⟩ := h
  have hn1 : ∀ c ∈ i.name, c ≠ '>' := fun c hc => alpha_ne c '>' (hal c hc) (by decide)
  have hn2 : ∀ c ∈ i.name, c ≠ '"' := fun c hc => alpha_ne c '"' (hal c hc) (by decide)
  have hlen := List.length_pos_iff.mpr hne
  -- the blank in front of the arguments changes neither test
  have hsep : gtQuoted (sepArgs i.args) (0 + i.name.length) true = true ∧ qwalk (sepArgs i.args) true = true := by
    unfold sepArgs
    split
    · exact ⟨rfl, rfl⟩
    · simp only [gtQuoted, qwalk]
      rw [gtQuoted_pos _ _ _ (by omega)]
      simp [hg, hq]
  have hG : gtQuoted (body i) 0 true = true := by
    rw [body, gtQuoted_append, gtQuoted_of_no_gt _ _ _ hn1, qwalk_of_no_quote _ _ hn2, hsep.1]
    rfl
  have hQ : qwalk (body i) true = true := by
    rw [body, qwalk_append, qwalk_of_no_quote _ _ hn2, hsep.2]
  rw [findClose, findCloseAux_walk (body i) rest 0 true hG hQ (by rw [body, List.length_append]; omega), Nat.zero_add]

/-- the name and the arguments come back from a body -/
theorem body_name (i : Item) (h : WfDtml i) :
    ∃ l, nameMatchLen (body i) = some l ∧ pyStrip ((body i).take l) = i.name ∧ pyStrip ((body i).drop l) = i.args := by
  obtain ⟨_, hn, ha, _, _⟩ := h
  have hns : ∀ c ∈ i.name, isPySpace c = false := fun c hc => alpha_not_space c (hn.2 c hc)
  unfold body sepArgs
  cases hargs : i.args with
  | nil =>
    have := nameMatchLen_name i.name [] [] hn (fun _ hc => nomatch hc) (fun _ hc => nomatch hc) (fun _ hc => nomatch hc)
    rw [List.nil_append, List.length_nil, Nat.add_zero] at this
    rw [if_pos rfl]
    refine ⟨_, this, ?_, ?_⟩
    · rw [List.append_nil, List.take_length]
      exact pyStrip_no_space _ hns
    · rw [List.append_nil, List.drop_length]
      rfl
  | cons y u =>
    rw [hargs] at ha
    have := nameMatchLen_name i.name [' '] (y :: u) hn (fun c hc => List.mem_singleton.mp hc)
      (fun c hc => by cases hc; exact ha.2 y rfl) (fun c hc => by cases hc; decide)
    rw [List.singleton_append, List.length_singleton] at this
    rw [if_neg (List.cons_ne_nil y u)]
    refine ⟨_, this, ?_, ?_⟩
    · rw [List.append_cons, List.take_left' (by simp)]
      exact pyStrip_trailing_blank _ hns
    · rw [List.append_cons, List.drop_left' (by simp)]
      exact ha.1

/-- `<!--#name args-->` / `<!--#/name args-->` -/
def printSsi (i : Item) : Text :=
  "<!--#".toList ++ (if i.isEnd then ['/'] else []) ++ body i ++ "-->".toList

/-- what the `<!--#…-->` spelling needs on top: no `>` in the arguments at all (the first `-->`
ends the tag, quoted or not), and a start tag whose name does not begin with `end` -/
def WfSsi (i : Item) : Prop :=
  WfDtml i ∧ (∀ c ∈ i.args, c ≠ '>') ∧ (i.isEnd = false → endMatchLen (body i ++ "-->".toList) = none)

theorem findSub_arrow : ∀ (b : Text), (∀ c ∈ b, c ≠ '>') → findSub "-->".toList (b ++ "-->".toList) = some b.length :=
  fun b hb => findSub_last ['-', '-'] '>' (by decide) b [] hb

theorem body_no_gt (i : Item) (h : WfSsi i) : ∀ c ∈ body i, c ≠ '>' := by
  intro c hc
  unfold body at hc
  rcases List.mem_append.mp hc with hc | hc
  · exact alpha_ne c '>' (h.1.2.1.2 c hc) (by decide)
  · unfold sepArgs at hc
    split at hc
    · cases hc
    · rcases List.mem_cons.mp hc with rfl | hc
      · decide
      · exact h.2.1 c hc

/-- **a printed tag is recognised in every spelling**: behind any opening marker `m`, provided `close` finds the closing
marker `cl` right behind the body and `cl` cannot continue a name -/
theorem angle_printed (i : Item) (h : WfDtml i) (close : Text → Option Nat) (m cl rest : Text)
    (hcl : ∀ c, (cl ++ rest).head? = some c → isCtl c = false ∧ isAsciiAlpha c = false)
    (hclose : close (body i ++ (cl ++ rest)) = some (body i).length) :
    angle close cl.length i.isEnd m (body i ++ (cl ++ rest)) =
      .tok (m ++ body i ++ cl).length (tokOf (m ++ body i ++ cl) i) := by
  obtain ⟨l, hl, hname, hargs⟩ := body_name i h
  have htext : m ++ (body i ++ (cl ++ rest)) = (m ++ body i ++ cl) ++ rest := by
    simp only [List.append_assoc]
  have hlen : m.length + (body i).length + cl.length = (m ++ body i ++ cl).length := by
    simp only [List.length_append]
  rw [angle_closed close _ _ m (body i) (cl ++ rest) hcl hclose, hl]
  dsimp only
  rw [hname, hargs, hlen, htext, List.take_left' rfl]
  rfl

theorem cand_dtml (i : Item) (rest : Text) (h : WfDtml i) :
    candidate (printDtml i ++ rest) = .tok (printDtml i).length (tokOf (printDtml i) i) := by
  have hm := fun m => angle_printed i h findClose m ['>'] rest (fun c hc => by cases hc; exact ⟨by decide, by decide⟩)
    (findClose_body i h rest)
  unfold printDtml
  cases hend : i.isEnd with
  | false =>
    rw [if_neg Bool.false_ne_true, List.append_assoc, List.append_assoc, candidate_dtml]
    exact hend ▸ hm _
  | true =>
    rw [if_pos rfl, List.append_assoc, List.append_assoc, candidate_dtml_end]
    exact hend ▸ hm _

theorem cand_ssi (i : Item) (rest : Text) (h : WfSsi i) :
    candidate (printSsi i ++ rest) = .tok (printSsi i).length (tokOf (printSsi i) i) := by
  -- the first `-->` behind the marker is the one that was printed
  have hm := fun m => angle_printed i h.1 (findSub "-->".toList) m "-->".toList rest
    (fun c hc => by cases hc; exact ⟨by decide, by decide⟩)
    (findSub_last ['-', '-'] '>' (by decide) (body i) rest (body_no_gt i h))
  unfold printSsi
  cases hend : i.isEnd with
  | false =>
    have hem : endMatchLen (body i ++ ("-->".toList ++ rest)) = none := by
      rw [← List.append_assoc, endMatchLen_append _ rest (by simp) (body_head i h.1 _)]
      exact h.2.2 hend
    rw [if_neg Bool.false_ne_true, List.append_nil, List.append_assoc, List.append_assoc, candidate_ssi _ hem]
    exact hend ▸ hm _
  | true =>
    rw [if_pos rfl, List.append_assoc, List.append_assoc, List.append_assoc, List.singleton_append,
      candidate_ssi_end]
    exact hend ▸ hm _

/-- the source text of a document: literal, tag, literal, tag, …, trailing literal -/
def printDoc (pr : Item → Text) : List Item → Text → Text
  | [], tail => tail
  | i :: r, tail => i.lit ++ (pr i ++ printDoc pr r tail)

theorem printDtml_head (i : Item) (r : Text) : (printDtml i ++ r).head? = some '<' := by
  unfold printDtml; split <;> rfl

theorem printSsi_head (i : Item) (r : Text) : (printSsi i ++ r).head? = some '<' := by
  unfold printSsi; rfl

theorem scan_item (pr : Item → Text) (i : Item) (rest : Text) (hl : CleanLit i.lit)
    (hh : (pr i ++ rest).head? = some '<')
    (hc : candidate (pr i ++ rest) = .tok (pr i).length (tokOf (pr i) i)) :
    scan .html (i.lit ++ (pr i ++ rest)) = some (i.lit, tokOf (pr i) i, rest) := by
  have ht : tagAt .html (pr i ++ rest) = some ((pr i).length, tokOf (pr i) i) := by
    cases hs : pr i ++ rest with
    | nil => rw [hs] at hh; cases hh
    | cons c t =>
      rw [hs] at hh hc
      cases hh
      simp only [tagAt, hc, decide_true, Bool.true_or, if_true]
  rw [scan_plain _ _ hl.plain, scan_hit .html _ _ _ ht]
  simp

/-- **re-scanning a printed document gives back its items**, for any spelling `pr` whose tags the
scanner recognises in front of any continuation; the fuel lasts because every search step consumes a character -/
theorem tokensAux_printed (pr : Item → Text) (Wf : Item → Prop)
    (hscan : ∀ i rest, Wf i → scan .html (i.lit ++ (pr i ++ rest)) = some (i.lit, tokOf (pr i) i, rest)) :
    ∀ (items : List Item) (tail : Text) (fuel : Nat), (∀ i ∈ items, Wf i) → CleanLit tail →
    (printDoc pr items tail).length < fuel →
    tokensAux .html fuel (printDoc pr items tail) = (items.map (fun i => (i.lit, tokOf (pr i) i)), tail) := by
  intro items
  induction items with
  | nil =>
    intro tail fuel _ ht hf
    cases fuel with
    | zero => cases hf
    | succ n => simp only [printDoc, tokensAux, scan_clean tail ht, List.map_nil]
  | cons i r ih =>
    intro tail fuel hw ht hf
    cases fuel with
    | zero => cases hf
    | succ n =>
      have h1 := hscan i (printDoc pr r tail) (hw i (List.mem_cons_self ..))
      obtain ⟨hs, hpos⟩ := scan_some _ _ _ _ _ h1
      simp only [printDoc, tokensAux, h1]
      rw [ih tail n (fun j hj => hw j (List.mem_cons_of_mem _ hj)) ht (by
        rw [printDoc, ← hs] at hf
        simp only [List.length_append] at hf
        omega)]
      rfl

theorem tokens_dtml (items : List Item) (tail : Text) (hw : ∀ i ∈ items, WfDtml i) (ht : CleanLit tail) :
    tokens .html (printDoc printDtml items tail) = (items.map (fun i => (i.lit, tokOf (printDtml i) i)), tail) :=
  tokensAux_printed printDtml WfDtml
    (fun i rest h => scan_item printDtml i rest h.1 (printDtml_head i rest) (cand_dtml i rest h)) items tail _ hw ht
    (Nat.lt_succ_self _)

theorem tokens_ssi (items : List Item) (tail : Text) (hw : ∀ i ∈ items, WfSsi i) (ht : CleanLit tail) :
    tokens .html (printDoc printSsi items tail) = (items.map (fun i => (i.lit, tokOf (printSsi i) i)), tail) :=
  tokensAux_printed printSsi WfSsi
    (fun i rest h => scan_item printSsi i rest h.1.1 (printSsi_head i rest) (cand_ssi i rest h)) items tail _ hw ht
    (Nat.lt_succ_self _)

end DTML.Lemmas.Print
