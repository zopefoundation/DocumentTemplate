/-
C03 — html_quote / &dtml-name; output is exactly the HTML-escaped value.
Model: DTML/Quote.lean (lemmas: Lemmas/Quote).  After the theorems about `escape`, the obligations that tie the dtml-var of
the interpreter (`Render.fetchVar`, `Parse.checkSimple`) to the source as translated on every run: the `'v'` branch of
`render_blocks_` (GenRender, with Lemmas/IBlock) and `Var.__init__` (GenVarInit, with Lemmas/VarInit).
-/
import DTML.Lemmas.Quote
import DTML.Lemmas.IBlock
import DTML.Lemmas.VarInit
namespace DTML.Props.C03
open DTML.Quote

/-- obligation on the regenerated table: the running Python's html.escape maps
the five specials to exactly the entities the model uses. -/
theorem gen_escape_table :
    Gen.escapeTable = [("&", "&amp;"), ("<", "&lt;"), (">", "&gt;"), ("\"", "&quot;"), ("'", "&#x27;")] := by
  rfl

/-- every piece of the output is the character itself (not special) or its entity -/
theorem escChar_cases (c : Char) :
    (isSpecial c = false ∧ escChar c = [c]) ∨
    (isSpecial c = true ∧ escChar c ∈ ["&amp;".toList, "&lt;".toList, "&gt;".toList, "&quot;".toList, "&#x27;".toList]) := by
  cases h : isSpecial c with
  | false => exact .inl ⟨rfl, escChar_id c h⟩
  | true =>
    refine .inr ⟨rfl, ?_⟩
    rcases isSpecial_iff.mp h with rfl | rfl | rfl | rfl | rfl <;> decide +kernel

private theorem entity_facts :
    ∀ e ∈ ["&amp;".toList, "&lt;".toList, "&gt;".toList, "&quot;".toList, "&#x27;".toList],
      1 < e.length ∧ ∀ d ∈ e, d ≠ '<' ∧ d ≠ '>' ∧ d ≠ '"' ∧ d ≠ '\'' := by
  decide +kernel

private theorem escChar_no_raw (c d : Char) (h : d ∈ escChar c) :
    d ≠ '<' ∧ d ≠ '>' ∧ d ≠ '"' ∧ d ≠ '\'' := by
  rcases escChar_cases c with ⟨hs, he⟩ | ⟨_, he⟩
  · rw [he, List.mem_singleton] at h; subst h
    exact (not_isSpecial_iff.mp hs).2
  · exact (entity_facts _ he).2 d h

/-- None of `< > " '` from the value reaches the output: the escaped text
contains none of them at all. -/
theorem escape_no_raw (s : Text) : ∀ d ∈ escape s, d ≠ '<' ∧ d ≠ '>' ∧ d ≠ '"' ∧ d ≠ '\'' := by
  intro d hd
  simp only [escape, List.mem_flatMap] at hd
  obtain ⟨c, _, hc⟩ := hd
  exact escChar_no_raw c d hc

private theorem unescape5_escChar (c : Char) (t : Text) : unescape5 (escChar c ++ t) = c :: unescape5 t := by
  cases hs : isSpecial c with
  | false => rw [escChar_id c hs, List.singleton_append, unescape5_cons_ne _ _ (not_isSpecial_iff.mp hs).1]
  | true => rcases isSpecial_iff.mp hs with rfl | rfl | rfl | rfl | rfl <;> simp [escChar, unescape5]

/-- HTML-unescaping the output returns the original text. -/
theorem unescape5_escape (s : Text) : unescape5 (escape s) = s := by
  induction s with
  | nil => simp [escape, unescape5]
  | cons c t ih => rw [escape_cons, unescape5_escChar, ih]

private theorem escChar_len (c : Char) (h : isSpecial c = true) : 1 < (escChar c).length := by
  rcases escChar_cases c with ⟨hs, _⟩ | ⟨_, he⟩
  · rw [h] at hs; cases hs
  · exact (entity_facts _ he).1

private theorem escChar_len_ge (c : Char) : 1 ≤ (escChar c).length := by
  cases h : isSpecial c
  · rw [escChar_id c h]; simp
  · have := escChar_len c h; omega

private theorem escape_len_ge (s : Text) : s.length ≤ (escape s).length := by
  induction s with
  | nil => simp [escape]
  | cons c t ih =>
    have := escChar_len_ge c
    rw [escape_cons, List.length_append, List.length_cons]
    omega

/-- Escaping leaves a string unchanged exactly when it contains none of the
five special characters — the soundness condition of any "skip the quoting"
shortcut. -/
theorem escape_id_iff (s : Text) : escape s = s ↔ ∀ c ∈ s, isSpecial c = false := by
  refine ⟨?_, escape_of_plain s⟩
  induction s with
  | nil => simp
  | cons c t ih =>
    rw [escape_cons]
    intro h
    cases hc : isSpecial c with
    | false =>
      rw [escChar_id c hc, List.singleton_append, List.cons.injEq] at h
      exact List.forall_mem_cons.mpr ⟨hc, ih h.2⟩
    | true =>
      have h1 := escChar_len c hc
      have h2 := escape_len_ge t
      have := congrArg List.length h
      rw [List.length_append, List.length_cons] at this
      omega

/-- Whenever the simple-form renderer decides to skip
html_quote (no character of `Gen.fastPathChars`, the list extracted from
render_blocks_ on this run, occurs in the value), escaping would not have
changed the value. -/
theorem fastpath_sound (s : Text) (h : needsQuote s = false) : escape s = s := by
  refine escape_of_plain s fun c hc => ?_
  have hc' : fastPathHit c = false := by simpa [needsQuote] using List.any_eq_false.mp h c hc
  -- the five strings of `Gen.fastPathChars` are the five characters `isSpecial` tests
  simp only [fastPathHit, Gen.fastPathChars, List.contains_cons, List.contains_nil, Bool.or_false,
    Bool.or_eq_false_iff, beq_eq_false_iff_ne, ne_eq] at hc'
  obtain ⟨h1, h2, h3, h4, h5⟩ := hc'
  exact not_isSpecial_iff.mpr
    ⟨fun e => h1 (e ▸ rfl), fun e => h2 (e ▸ rfl), fun e => h3 (e ▸ rfl), fun e => h4 (e ▸ rfl), fun e => h5 (e ▸ rfl)⟩

/-- **All quoting forms agree** on `str` values: the entity form / `html_quote`
alone (simple form with fast path) and `html_quote` with other options /
`fmt=html-quote` (full path) all yield exactly `escape s`. -/
theorem forms_agree (s : Text) : renderSimpleH s = escape s ∧ renderFullH s = escape s := by
  refine ⟨?_, rfl⟩
  unfold renderSimpleH
  cases h : needsQuote s with
  | true => simp
  | false => simp [fastpath_sound s h]

/-- Plain insertion leaves an (untainted) string unchanged. -/
theorem plain_unchanged (s : Text) : renderSimple s = s := rfl

example : escape "a<b & 'c' \"d\">".toList = "a&lt;b &amp; &#x27;c&#x27; &quot;d&quot;&gt;".toList := by decide +kernel
example : needsQuote "it's".toList = true := by decide +kernel

/-! ### The simple dtml-var of the interpreter is the `'v'` branch of the source

`GenRender.vBlockGen` is regenerated on every run by translating the `'v'` branch of `render_blocks_` in /repo
(harness/trans_render.py): `t = md[t]` / `t(md)`, the `ustr` step, the decision `skip_html_quote == 0 and len(block) == 3`,
the fast-path test character by character as the source has it, `html_quote(t, encoding=encoding)`.  It computes the
model's `fetchVar`, which escapes every quoted value: the fast path of the source is sound because text without the
tested characters is its own escaping (`fastpath_sound` above; for the test and the `escChar` of the interpreter model:
`Lemmas.IBlock.esc_id_of_plain`).  Removing a character from the test in the source makes this theorem false. -/
theorem gen_simple_var_is_model (env : Render.Env) (fuel : Nat) (src : Render.Src) (hq : Bool) (st : Render.St) :
    GenRender.vBlockGen env fuel src hq st = Render.fetchVar env (fuel + 2) src hq none st :=
  Lemmas.IBlock.vBlock_eq env fuel src hq st

/-! ### Which form a dtml-var tag compiles to: `Var.__init__`, translated from the source on every run

`GenVarInit` is regenerated on every run by translating `DT_Var.Var.__init__` statement by statement
(harness/trans_varinit.py): the removal of the prefix `var `, the call of `parse_params` with its table, the filter of
the modifiers (`C15.gen_var_modifiers_is_model`), `name_param`, and the if-chain that stores `simple_form`
(`len(args) == 1 and fmt == 's'`; `len(args) == 2 and fmt == 's' and 'html_quote' in args`).  The entity syntax `&dtml-x;`
reaches this constructor with ` html_quote` appended to its arguments by the scanner (`C01.gen_html_scanner_*`), so it is
the second case. -/

/-- **The constructor of the model is the constructor of the source**: `Var.__init__` up to the choice of the form
(prefix, attribute grammar over the table of the call, name / expr validation with the flag of the call) computes
`Parse.checkSimple .var` - same errors, same attribute dictionary, same target, same expressions handed to `Eval`. -/
theorem gen_var_init_is_checkSimple (args fmt : Scan.Text) :
    (GenVarInit.varInitGen args fmt).map
      (fun r => ({ params := r.args, target := some r.target, exprs := r.exprs } : Parse.Built)) =
    Parse.checkSimple .var args := by
  have ht : GenVarInit.varTable = Gen.varParams := by rfl
  unfold GenVarInit.varInitGen Parse.checkSimple
  simp only [Lemmas.VarInit.stripGen_eq, ht, GenVarInit.allowExprGen]
  cases Parse.parseParams Gen.varParams (if "var ".toList.isPrefixOf args then args.drop 4 else args) with
  | error e => rfl
  | ok p =>
    cases h : Parse.nameParam p true with
    | error e => simp [h, Except.map, bind, Except.bind]
    | ok r => obtain ⟨t, es⟩ := r; simp [h, Except.map, bind, Except.bind, pure, Except.pure]

/-- **The form the source chooses is the one the interpreter model renders**: on the attribute dictionary of the tag a
`.var src hq missing null` cell stands for (`Lemmas.VarInit.blkParams`), the if-chain of `Var.__init__` stores no simple
form (0) exactly when `missing=` or `null=` is written (`renderBlk` then takes the path of `Var.render`), the quoting form
`('v', x, 'h')` (2) when `html_quote` is written or implied by the entity syntax, the plain form `('v', x)` (1) otherwise. -/
theorem gen_var_form_is_interp (isExpr : Bool) (target : Scan.Text) (hq : Bool) (missing null : Option Scan.Text) :
    GenVarInit.formGen (Lemmas.VarInit.blkParams isExpr target hq missing null) "s".toList =
      if missing.isSome || null.isSome then 0 else if hq then 2 else 1 := by
  cases isExpr <;> cases hq <;> cases missing <;> cases null <;> rfl

/-- a tag for which the source stores a simple form is rendered by the model as the `'v'` cell - `fetchVar`, which
`gen_simple_var_is_model` proves to be the `'v'` branch of `render_blocks_` -/
theorem gen_var_simple_form_is_fetch (env : Render.Env) (fuel : Nat) (src : Render.Src) (isExpr : Bool)
    (target : Scan.Text) (hq : Bool) (missing null : Option Scan.Text) (st : Render.St)
    (h : GenVarInit.formGen (Lemmas.VarInit.blkParams isExpr target hq missing null) "s".toList ≠ 0) :
    Render.renderBlk env (fuel + 1) (.var src hq missing null) st = Render.fetchVar env fuel src hq none st := by
  rw [gen_var_form_is_interp] at h
  cases missing with
  | some m => simp at h
  | none =>
    cases null with
    | some m => simp at h
    | none => cases src <;> rfl

example : GenVarInit.formGen (Lemmas.VarInit.blkParams false ['x'] true none none) "s".toList = 2 := by decide +kernel
example : GenVarInit.formGen (Lemmas.VarInit.blkParams false ['x'] true (some []) none) "s".toList = 0 := by decide +kernel

end DTML.Props.C03
