/-
C04 — Tainted (untrusted) values are always HTML-escaped when inserted.
Model: DTML/VarPipe.lean (`render`, stages, `TaintedString` mark as a Bool), with Lemmas/VarPipe and the escaping
theorems of Props/C03.  The last section holds the obligations on the taint bookkeeping of DT_Var as translated on every
run (GenTaint, harness/trans_taint.py), proved through the hand-written specification of Lemmas/Taint.
-/
import DTML.Lemmas.VarPipe
import DTML.Props.C03
import DTML.Lemmas.Taint
namespace DTML.Props.C04
open DTML.Quote DTML.VarPipe

private theorem escape_noLt (s : Text) : '<' ∉ escape s :=
  fun h => (C03.escape_no_raw s '<' h).1 rfl

private theorem intRepr_noLt (i : Int) : '<' ∉ intRepr i :=
  fun h => (mem_intRepr h).elim (by decide) (by decide)

private theorem lt_spacify {s : Text} : '<' ∈ spacify s ↔ '<' ∈ s := mem_spacify (by decide) (by decide)

private theorem lt_thousandsCommas {s : Text} : '<' ∈ thousandsCommas s ↔ '<' ∈ s := mem_thousandsCommas (by decide)

private theorem lt_sqlQuote {s : Text} : '<' ∈ sqlQuote s ↔ '<' ∈ s := by
  simp [mem_sqlQuote]

/-- What the theorems need from Unicode case mapping and urllib's codec.
`*_noLt`: the function does not create a '<' out of text that has none;
`quote*_noLt`: URL-quoting leaves no '<' at all;
`*_keepLt`: the function does not remove a '<'.
(All true of CPython's str.upper/lower/capitalize and urllib.parse.)  Notably
there is *no* law `unquote_noLt` — unquoting does create '<' (from %3C); that
is exactly the known finding C04-requote. -/
structure Laws (x : Ext) : Prop where
  upper_noLt : ∀ s, '<' ∉ s → '<' ∉ x.upper s
  lower_noLt : ∀ s, '<' ∉ s → '<' ∉ x.lower s
  capitalize_noLt : ∀ s, '<' ∉ s → '<' ∉ x.capitalize s
  quote_noLt : ∀ s, '<' ∉ x.urlQuote s
  quotePlus_noLt : ∀ s, '<' ∉ x.urlQuotePlus s
  upper_keepLt : ∀ s, '<' ∈ s → '<' ∈ x.upper s
  lower_keepLt : ∀ s, '<' ∈ s → '<' ∈ x.lower s
  capitalize_keepLt : ∀ s, '<' ∈ s → '<' ∈ x.capitalize s
  unquote_keepLt : ∀ s, '<' ∈ s → '<' ∈ x.urlUnquote s
  unquotePlus_keepLt : ∀ s, '<' ∈ s → '<' ∈ x.urlUnquotePlus s

/-! The hypotheses of the theorems speak of the modifiers and formats by these classes. -/

def isUnquoter (m : String) : Bool := m = "url_unquote" || m = "url_unquote_plus"
def isBr (m : String) : Bool := m = "newline_to_br"
/-- the modifiers after which the mark is gone (newline_to_br among them: it quotes a marked text itself) -/
def isQuoter (m : String) : Bool := m = "url_quote" || m = "url_quote_plus" || m = "newline_to_br"

def fmtIsBr (f : Text) : Bool := f = "multi-line".toList

/-- does a %-format contain a `%s` directive (that will insert the value)? -/
def consumes : Text → Bool
  | '%' :: '%' :: t => consumes t
  | '%' :: 's' :: _ => true
  | _ :: t => consumes t
  | [] => false

/-- `fmt=` values after which a tainted string is still marked: method formats,
html-quote, sql-quote, url-unquote(-plus), comma-numeric and %-formats that
actually insert the value (contain a `%s`). -/
def fmtKeepsMark (f : Text) : Bool :=
  strMethods.contains (String.ofList f) ||
  ["html-quote", "sql-quote", "url-unquote", "url-unquote-plus", "comma-numeric"].contains (String.ofList f) ||
  (!Gen.specialFormats.contains (String.ofList f) && !f.isEmpty && consumes f)

/-- the state is harmless: still marked as tainted (it will be quoted at the
end), or it contains no '<' -/
def Safe (p : Text × Bool) : Prop := p.2 = true ∨ '<' ∉ p.1

/-- still marked as tainted and still containing the '<' that justifies the mark -/
def Marked (p : Text × Bool) : Prop := p.2 = true ∧ '<' ∈ p.1

/-! A step of the pipeline keeps the mark (`map`), sets it again from the new text (`retaint`) or drops it.  The new
text `r` comes from the old one by a function that makes no '<' (what `Safe` needs) or loses none (`Marked`). -/

private theorem Safe.map {s r : Text} {t : Bool} (h : Safe (s, t)) (hr : '<' ∉ s → '<' ∉ r) : Safe (r, t) :=
  h.imp id hr

private theorem safe_tainted (r : Text) : Safe (r, hasLt r) := by
  by_cases hl : '<' ∈ r
  · exact .inl ((hasLt_iff r).mpr hl)
  · exact .inr hl

private theorem Safe.retaint {s : Text} {t : Bool} (h : Safe (s, t)) (r : Text) (hr : '<' ∉ s → '<' ∉ r) :
    Safe (r, t && hasLt r) := by
  cases t
  · exact .inr (hr (h.resolve_left Bool.false_ne_true))
  · exact safe_tainted r

private theorem Marked.map {s r : Text} {t : Bool} (h : Marked (s, t)) (hr : '<' ∈ s → '<' ∈ r) : Marked (r, t) :=
  ⟨h.1, hr h.2⟩

private theorem Marked.retaint {s : Text} {t : Bool} (h : Marked (s, t)) (r : Text) (hr : '<' ∈ s → '<' ∈ r) :
    Marked (r, t && hasLt r) :=
  ⟨by simp [show t = true from h.1, hasLt_iff, hr h.2], hr h.2⟩

private theorem applyMod_safe (x : Ext) (hx : Laws x) (m : String) (s : Text) (t : Bool)
    (hu : isUnquoter m = false) (hb : isBr m = false) (h : Safe (s, t)) :
    Safe (applyMod x m s t) := by
  cases m using modifier_cases with
  | html_quote =>
    rw [applyMod_html_quote]
    split
    · exact h
    · exact .inr (escape_noLt s)
  | url_quote => rw [applyMod_url_quote]; exact .inr (hx.quote_noLt s)
  | url_quote_plus => rw [applyMod_url_quote_plus]; exact .inr (hx.quotePlus_noLt s)
  | url_unquote => simp [isUnquoter] at hu
  | url_unquote_plus => simp [isUnquoter] at hu
  | newline_to_br => simp [isBr] at hb
  | lower => rw [applyMod_lower]; exact h.map (hx.lower_noLt s)
  | upper => rw [applyMod_upper]; exact h.map (hx.upper_noLt s)
  | capitalize => rw [applyMod_capitalize]; exact h.map (hx.capitalize_noLt s)
  | spacify =>
    rw [applyMod_spacify]
    split
    · exact h.retaint _ (mt lt_spacify.mp)
    · exact h
  | thousands_commas => rw [applyMod_thousands_commas]; exact h.retaint _ (mt lt_thousandsCommas.mp)
  | sql_quote => rw [applyMod_sql_quote]; exact h.retaint _ (mt lt_sqlQuote.mp)
  | other m hm => rw [applyMod_of_not_mem x s t hm]; exact h

private theorem applyMod_marked (x : Ext) (hx : Laws x) (m : String) (s : Text) (t : Bool)
    (hq : isQuoter m = false) (h : Marked (s, t)) : Marked (applyMod x m s t) := by
  cases m using modifier_cases with
  | html_quote => rw [applyMod_html_quote, if_pos h.1]; exact h
  | url_quote => simp [isQuoter] at hq
  | url_quote_plus => simp [isQuoter] at hq
  | url_unquote => rw [applyMod_url_unquote]; exact h.retaint _ (hx.unquote_keepLt s)
  | url_unquote_plus => rw [applyMod_url_unquote_plus]; exact h.retaint _ (hx.unquotePlus_keepLt s)
  | newline_to_br => simp [isQuoter] at hq
  | lower => rw [applyMod_lower]; exact h.map (hx.lower_keepLt s)
  | upper => rw [applyMod_upper]; exact h.map (hx.upper_keepLt s)
  | capitalize => rw [applyMod_capitalize]; exact h.map (hx.capitalize_keepLt s)
  | spacify =>
    rw [applyMod_spacify]
    split
    · exact h.retaint _ lt_spacify.mpr
    · exact h
  | thousands_commas => rw [applyMod_thousands_commas]; exact h.retaint _ lt_thousandsCommas.mpr
  | sql_quote => rw [applyMod_sql_quote]; exact h.retaint _ lt_sqlQuote.mpr
  | other m hm => rw [applyMod_of_not_mem x s t hm]; exact h

private theorem truncate_safe (n : Int) (etc s : Text) (t : Bool) (he : '<' ∉ etc) (h : Safe (s, t)) :
    Safe (truncate n etc s t) := by
  have cut : ∀ {u : Text} {b : Bool} (k : Int), Safe (u, b) → Safe (sliceTo u k, b && hasLt (sliceTo u k)) :=
    fun k hu => hu.retaint _ (mt mem_of_mem_sliceTo)
  have app : ∀ {u : Text} {b : Bool}, Safe (u, b) → Safe (u ++ etc, b) :=
    fun hu => hu.map (fun hn => by simp [hn, he])
  unfold truncate
  split
  · simp only
    split
    · exact app (cut _ (cut _ h))
    · exact app (cut _ h)
  · exact h

private theorem final_noLt (s : Text) (t : Bool) (h : Safe (s, t)) : '<' ∉ (if t then escape s else s) := by
  cases t
  · rcases h with h | h
    · cases h
    · simpa using h
  · simpa using escape_noLt s

/-- `fmtStage` is an if-chain over the format names.  A fact about what it yields, stated as `Yields P`, is proved by
walking the chain with `Yields.ite`, one name a line; `split` on the whole chain is slow to check. -/
private def Yields (P : Val → Prop) (o : Option (R Val)) : Prop := ∀ v, o = some (.ok v) → P v

private theorem Yields.ok {P : Val → Prop} {v : Val} (h : P v) : Yields P (some (.ok v)) :=
  fun _ e => by cases e; exact h

private theorem Yields.ite {P : Val → Prop} {c : Prop} [Decidable c] {a b : Option (R Val)}
    (ha : c → Yields P a) (hb : ¬c → Yields P b) : Yields P (if c then a else b) := by
  split
  · exact ha ‹_›
  · exact hb ‹_›

private theorem Yields.none {P : Val → Prop} : Yields P none := fun _ e => nomatch e

/-- the end of the chain: the text a %-format gives, with the mark `t` -/
private theorem Yields.ofFormat {P : Val → Prop} {o : Option (R Text)} {t : Bool} :
    (∀ r, o = some (.ok r) → P (.str r t)) →
    Yields P (match o with
      | .none => .none
      | .some (.error e) => .some (.error e)
      | .some (.ok s) => .some (.ok (.str s t))) := by
  intro h v hv
  split at hv
  · cases hv
  · cases hv
  · cases hv; exact h _ rfl

private def StrIn (I : Text × Bool → Prop) (v : Val) : Prop := ∃ s' t', v = .str s' t' ∧ I (s', t')

private theorem StrIn.mk {I : Text × Bool → Prop} {s : Text} {t : Bool} (h : I (s, t)) : StrIn I (.str s t) :=
  ⟨s, t, rfl, h⟩

private theorem fmtStage_safe (x : Ext) (hx : Laws x) (f s : Text) (hb : fmtIsBr f = false) :
    Yields (StrIn Safe) (fmtStage x f (.str s true)) := by
  have hS : Safe (s, true) := .inl rfl
  have hbr : String.ofList f ≠ "multi-line" := by
    intro e
    simp [fmtIsBr, (ofList_eq_iff _ _).mp e] at hb
  have hwd : '<' ∉ wholeDollars (.str s true) := by simp [wholeDollars]
  have hdc : '<' ∉ dollarsAndCents (.str s true) := by simp [dollarsAndCents]
  unfold fmtStage
  refine .ite (fun _ => .ok (.mk (.inl rfl))) fun _ => ?_
  refine .ite (fun _ => ?_) fun _ => ?_
  · refine .ite (fun (_ : _ = "html-quote") => .ok (.mk (.inl rfl))) fun _ => ?_
    refine .ite (fun (_ : _ = "sql-quote") => .ok (.mk (hS.retaint _ (mt lt_sqlQuote.mp)))) fun _ => ?_
    refine .ite (fun (_ : _ = "url-quote") => .ok (.mk (.inr (hx.quote_noLt _)))) fun _ => ?_
    refine .ite (fun (_ : _ = "url-quote-plus") => .ok (.mk (.inr (hx.quotePlus_noLt _)))) fun _ => ?_
    refine .ite (fun (_ : _ = "url-unquote") => .ok (.mk (safe_tainted _))) fun _ => ?_
    refine .ite (fun (_ : _ = "url-unquote-plus") => .ok (.mk (safe_tainted _))) fun _ => ?_
    refine .ite (fun (hc : _ = "multi-line") => absurd hc hbr) fun _ => ?_
    refine .ite (fun (_ : _ = "comma-numeric") => .ok (.mk (safe_tainted _))) fun _ => ?_
    refine .ite (fun (_ : _ = "whole-dollars") => .ok (.mk (.inr hwd))) fun _ => ?_
    refine .ite (fun (_ : _ = "dollars-and-cents") => .ok (.mk (.inr hdc))) fun _ => ?_
    refine .ite (fun (_ : _ = "dollars-with-commas") => .ok (.mk (.inr (mt lt_thousandsCommas.mp hwd)))) fun _ => ?_
    refine .ite (fun (_ : _ = "dollars-and-cents-with-commas") => .ok (.mk (.inr (mt lt_thousandsCommas.mp hdc)))) fun _ => ?_
    exact .ite (fun (_ : _ = "collection-length") => .ok (.mk (.inr (intRepr_noLt (s.length : Int))))) fun _ => .none
  · refine .ite (fun _ => .ok (.mk (.inr (by simp)))) fun _ => ?_
    exact .ofFormat fun _ _ => .mk (.inl rfl)

private theorem finishStage_noLt (sp : Spec) (s : Text) (t : Bool) (out : Text)
    (hetc : ∀ e, sp.etc = some e → '<' ∉ e) (hS : Safe (s, t))
    (h : finishStage sp s t = .ok out) : '<' ∉ out := by
  unfold finishStage at h
  split at h
  · cases h
    exact final_noLt s t hS
  · split at h
    · cases h
    · cases h
      have he : '<' ∉ sp.etc.getD "...".toList := by
        cases hq : sp.etc with
        | none => simp
        | some e => simpa using hetc e hq
      have := truncate_safe ‹Int› _ s t he hS
      exact final_noLt _ _ this

/-- `I` holds of the tainted string on entry, the `fmt=` of the tag and the written modifiers preserve it, and it
implies `Safe`: then the output has no '<'.  Regime A is `I := Safe`, regime B `I := Marked`. -/
private theorem render_noLt (x : Ext) (sp : Spec) (s out : Text) (I : Text × Bool → Prop)
    (hI : ∀ p, I p → Safe p) (h0 : I (s, true))
    (hfmt : ∀ f, sp.fmt = some f → Yields (StrIn I) (fmtStage x f (.str s true)))
    (hmod : ∀ m ∈ sp.written, ∀ s t, I (s, t) → I (applyMod x m s t))
    (hetc : ∀ e, sp.etc = some e → '<' ∉ e)
    (hnull : ∀ n, sp.null = some n → '<' ∉ n)
    (hr : render x sp (some (.str s true)) = some (.ok out)) : '<' ∉ out := by
  rcases render_ok hr with ⟨_, rfl⟩ | ⟨_, hn⟩ | ⟨v1, s2, t2, hf, hc, hfin⟩
  · exact escape_noLt s  -- both simple forms escape a marked string, whatever is written
  · exact hnull _ hn
  · obtain ⟨s1, t1, rfl, h1⟩ : StrIn I v1 := by
      rcases fmtOpt_ok hf with ⟨_, rfl⟩ | ⟨f, hf1, hf2⟩
      · exact .mk h0
      · exact hfmt f hf1 v1 hf2
    cases cfmtStage_str hc
    have hm : ∀ m ∈ applied sp, ∀ s t, I (s, t) → I (applyMod x m s t) := by
      intro m hm
      simp only [applied, List.mem_filter, List.contains_iff_mem] at hm
      exact hmod m hm.2
    exact finishStage_noLt sp _ _ out hetc (hI _ (applyMods_inv hm h1)) hfin

/-- **Regime A: no unquoting modifier.**  A tainted string, whatever it
contains, rendered by a dtml-var with *any* subset and written order of the
other ten modifiers (newline_to_br, whose own `<br />` is set aside, excluded),
any `fmt=` (special, method or %-format; multi-line excluded), any size/etc,
null and C-style format: the output contains no '<'. -/
theorem tainted_never_raw_no_unquote (x : Ext) (hx : Laws x) (sp : Spec) (s out : Text)
    (hnoU : ∀ m ∈ sp.written, isUnquoter m = false)
    (hnoBr : ∀ m ∈ sp.written, isBr m = false)
    (hfbr : ∀ f, sp.fmt = some f → fmtIsBr f = false)
    (hetc : ∀ e, sp.etc = some e → '<' ∉ e)
    (hnull : ∀ n, sp.null = some n → '<' ∉ n)
    (hr : render x sp (some (.str s true)) = some (.ok out)) : '<' ∉ out := by
  refine render_noLt x sp s out Safe (fun _ => id) (.inl rfl) ?_ ?_ hetc hnull hr
  · exact fun f hf => fmtStage_safe x hx f s (hfbr f hf)
  · exact fun m hm s t => applyMod_safe x hx m s t (hnoU m hm) (hnoBr m hm)

private theorem consumes_cons_ne (c : Char) (t : Text) (h : c ≠ '%') : consumes (c :: t) = consumes t := by
  simp [consumes, h]

private theorem pyFormatAux_mem (v : Val) (f : Text) (used : Bool) : ∀ r, pyFormatAux f v used = some (.ok r) →
    consumes f = true → ∀ d ∈ ustr v, d ∈ r := by
  fun_induction pyFormatAux f v used with
  | case4 t v used ih =>  -- `%%`
    intro r h hc d hd
    obtain ⟨r', h1, rfl⟩ := map_map_eq_ok h
    exact List.mem_cons_of_mem _ (ih r' h1 (by simpa [consumes] using hc) d hd)
  | case6 t v used hu ih =>  -- `%s`, the argument not yet used
    intro r h _ d hd
    obtain ⟨r', _, rfl⟩ := map_map_eq_ok h
    exact List.mem_append_left _ hd
  | case8 t used hu i ih =>  -- `%d` of an integer
    intro r h hc d hd
    obtain ⟨r', h1, rfl⟩ := map_map_eq_ok h
    exact List.mem_append_right _ (ih r' h1 (by simpa [consumes] using hc) d hd)
  | case12 c t v used _ _ _ hne ih =>  -- an ordinary character
    intro r h hc d hd
    rw [consumes_cons_ne _ _ hne] at hc
    obtain ⟨r', h1, rfl⟩ := map_map_eq_ok h
    exact List.mem_cons_of_mem _ (ih r' h1 hc d hd)
  | case1 | case2 => intro r _ hc; simp [consumes] at hc  -- the end of the format: it has no `%s`
  | _ => intro r h; cases h  -- every other arm is an error or outside the model

private theorem fmtStage_marked (x : Ext) (hx : Laws x) (f s : Text) (hs : '<' ∈ s) (hk : fmtKeepsMark f = true) :
    Yields (StrIn Marked) (fmtStage x f (.str s true)) := by
  have hM : Marked (s, true) := ⟨rfl, hs⟩
  have hsub : ∀ n ∈ ["html-quote", "sql-quote", "url-unquote", "url-unquote-plus", "comma-numeric"],
      n ∈ Gen.specialFormats := by simp [Gen.specialFormats]
  unfold fmtStage
  refine .ite (fun _ => .ok (.mk ⟨rfl, ?_⟩)) fun (hm : ¬strMethods.contains _ = true) => ?_
  · split
    · exact hx.upper_keepLt s hs
    · split
      · exact hx.lower_keepLt s hs
      · exact hx.capitalize_keepLt s hs
  simp only [fmtKeepsMark, hm, Bool.false_or, Bool.or_eq_true, Bool.and_eq_true, Bool.not_eq_true',
    List.contains_iff_mem] at hk
  refine .ite (fun hsp => ?_) fun hsp => ?_
  · have hk : String.ofList f ∈ ["html-quote", "sql-quote", "url-unquote", "url-unquote-plus", "comma-numeric"] :=
      hk.resolve_right fun h => Bool.noConfusion (hsp.symm.trans h.1.1)
    refine .ite (fun (_ : _ = "html-quote") => .ok (.mk hM)) fun _ => ?_
    refine .ite (fun (_ : _ = "sql-quote") => .ok (.mk (hM.retaint _ lt_sqlQuote.mpr))) fun _ => ?_
    refine .ite (fun (hc : _ = "url-quote") => absurd (hc ▸ hk) (by simp)) fun _ => ?_
    refine .ite (fun (hc : _ = "url-quote-plus") => absurd (hc ▸ hk) (by simp)) fun _ => ?_
    refine .ite (fun (_ : _ = "url-unquote") => .ok (.mk (hM.retaint _ (hx.unquote_keepLt s)))) fun _ => ?_
    refine .ite (fun (_ : _ = "url-unquote-plus") => .ok (.mk (hM.retaint _ (hx.unquotePlus_keepLt s)))) fun _ => ?_
    refine .ite (fun (hc : _ = "multi-line") => absurd (hc ▸ hk) (by simp)) fun _ => ?_
    refine .ite (fun (_ : _ = "comma-numeric") => .ok (.mk (hM.retaint _ lt_thousandsCommas.mpr))) fun _ => ?_
    refine .ite (fun (hc : _ = "whole-dollars") => absurd (hc ▸ hk) (by simp)) fun _ => ?_
    refine .ite (fun (hc : _ = "dollars-and-cents") => absurd (hc ▸ hk) (by simp)) fun _ => ?_
    refine .ite (fun (hc : _ = "dollars-with-commas") => absurd (hc ▸ hk) (by simp)) fun _ => ?_
    refine .ite (fun (hc : _ = "dollars-and-cents-with-commas") => absurd (hc ▸ hk) (by simp)) fun _ => ?_
    exact .ite (fun (hc : _ = "collection-length") => absurd (hc ▸ hk) (by simp)) fun _ => .none
  · obtain ⟨⟨_, he⟩, hcons⟩ :=
      hk.resolve_left fun h => hsp (by simpa using hsub _ h)
    refine .ite (fun hc => by simp [hc] at he) fun _ => ?_
    exact .ofFormat fun r hp => .mk ⟨rfl, pyFormatAux_mem _ f false r hp hcons '<' hs⟩

/-- **Regime B: unquoting modifiers, no mark-dropping stage.**  A tainted
string containing '<', rendered with any subset/order of the modifiers other
than url_quote, url_quote_plus and newline_to_br (so: html_quote,
url_unquote(_plus) — applied twice, as `Gen.modifiers` lists them —, lower,
upper, capitalize, spacify, thousands_commas, sql_quote), any mark-keeping
`fmt=`, any size/etc and null: the output contains no '<'. -/
theorem tainted_never_raw_no_quoter (x : Ext) (hx : Laws x) (sp : Spec) (s out : Text)
    (hs : '<' ∈ s)
    (hnoQ : ∀ m ∈ sp.written, isQuoter m = false)
    (hfk : ∀ f, sp.fmt = some f → fmtKeepsMark f = true)
    (hetc : ∀ e, sp.etc = some e → '<' ∉ e)
    (hnull : ∀ n, sp.null = some n → '<' ∉ n)
    (hr : render x sp (some (.str s true)) = some (.ok out)) : '<' ∉ out := by
  refine render_noLt x sp s out Marked (fun _ h => .inl h.1) ⟨rfl, hs⟩ ?_ ?_ hetc hnull hr
  · exact fun f hf => fmtStage_marked x hx f s hs (hfk f hf)
  · exact fun m hm s t => applyMod_marked x hx m s t (hnoQ m hm)

/-- The two regimes together cover every spec except "a mark-dropping quoting
stage *and* an unquoting modifier" (finding C04-requote), `newline_to_br` /
`fmt=multi-line` (tag-made `<br />`; checked by the oracle) and value-discarding
formats combined with unquoting.  `_partial` for that reason. -/
theorem tainted_never_raw_partial (x : Ext) (hx : Laws x) (sp : Spec) (s out : Text)
    (hs : '<' ∈ s)
    (hreg : ((∀ m ∈ sp.written, isUnquoter m = false) ∧ (∀ m ∈ sp.written, isBr m = false) ∧
              (∀ f, sp.fmt = some f → fmtIsBr f = false)) ∨
            ((∀ m ∈ sp.written, isQuoter m = false) ∧ (∀ f, sp.fmt = some f → fmtKeepsMark f = true)))
    (hetc : ∀ e, sp.etc = some e → '<' ∉ e)
    (hnull : ∀ n, sp.null = some n → '<' ∉ n)
    (hr : render x sp (some (.str s true)) = some (.ok out)) : '<' ∉ out := by
  rcases hreg with ⟨h1, h2, h3⟩ | ⟨h1, h2⟩
  · exact tainted_never_raw_no_unquote x hx sp s out h1 h2 h3 hetc hnull hr
  · exact tainted_never_raw_no_quoter x hx sp s out hs h1 h2 hetc hnull hr

private theorem html_quote_once (x : Ext) (sp : Spec) (s : Text)
    (hw : ∀ m ∈ sp.written, m = "html_quote")
    (hf : sp.fmt = none ∨ sp.fmt = some "html-quote".toList)
    (hc : sp.cfmt = ['s']) (hs : sp.size = none) (hn : sp.null = none) :
    render x sp (some (.str s true)) = some (.ok (escape s)) := by
  simp only [render]
  split
  · rfl
  · have h0 : fmtStage x "html-quote".toList (.str s true) = some (.ok (.str s true)) := by
      unfold fmtStage
      rw [String.ofList_toList, if_neg (by simp [hasMethod, strMethods]), if_pos (by simp [Gen.specialFormats]), if_pos rfl]
      rfl
    have h1 : fmtOpt x sp (.str s true) = some (.ok (.str s true)) := by
      rcases hf with hf | hf <;> simp only [fmtOpt, hf, h0]
    have h2 : applyMods x (applied sp) s true = (s, true) := by
      refine applyMods_inv (I := (· = (s, true))) (fun m hm s' t' h => ?_) rfl
      simp only [applied, List.mem_filter, List.contains_iff_mem] at hm
      cases h
      rw [hw m hm.2, applyMod_html_quote]; rfl
    rw [renderFull_stages x sp _ _ s true (by simp [hn]) h1 (by simp [hc, cfmtStage]), h2]
    simp [finishStage, hs]

/-- **No double escaping.**  With html_quote requested — as the simple form, on
the full path (here forced by `missing=`), as `fmt=html-quote`, or both — a
tainted string is escaped exactly once: the output is `escape s`. -/
theorem no_double_escape (x : Ext) (s : Text) :
    render x { written := ["html_quote"] } (some (.str s true)) = some (.ok (escape s)) ∧
    render x { written := ["html_quote"], missing := some [] } (some (.str s true)) = some (.ok (escape s)) ∧
    render x { written := [], fmt := some "html-quote".toList } (some (.str s true)) = some (.ok (escape s)) ∧
    render x { written := ["html_quote"], fmt := some "html-quote".toList } (some (.str s true)) =
      some (.ok (escape s)) := by
  have h := html_quote_once x
  exact ⟨h _ s (by simp) (by simp) rfl rfl rfl, h _ s (by simp) (by simp) rfl rfl rfl,
    h _ s (by simp) (by simp) rfl rfl rfl, h _ s (by simp) (by simp) rfl rfl rfl⟩

/-- The excluded combination is real (finding C04-requote), shown on the model
with a concrete codec: url_quote turns the tainted `<%3C` into `%3C%253C`
(unmarked), the two url_unquote entries of `Gen.modifiers` turn that back into
`<<`. -/
theorem finding_C04_requote :
    let x : Ext := { upper := id, lower := id, capitalize := id,
                     urlQuote := fun s => if s = "<%3C".toList then "%3C%253C".toList else s,
                     urlQuotePlus := id,
                     urlUnquote := fun s => if s = "%3C%253C".toList then "<%3C".toList
                                            else if s = "<%3C".toList then "<<".toList else s,
                     urlUnquotePlus := id }
    render x { written := ["url_quote", "url_unquote"] } (some (.str "<%3C".toList true)) =
      some (.ok "<<".toList) := by
  decide +kernel

/-- Non-vacuity: the assumed laws are satisfiable (identity case mapping, a
codec that deletes '<' when quoting), and the theorem's premises hold for a
concrete tag. -/
example : Laws { upper := id, lower := id, capitalize := id,
                 urlQuote := fun s => s.filter (· != '<'), urlQuotePlus := fun s => s.filter (· != '<'),
                 urlUnquote := id, urlUnquotePlus := id } where
  upper_noLt := fun _ h => h
  lower_noLt := fun _ h => h
  capitalize_noLt := fun _ h => h
  quote_noLt := fun s h => by simp at h
  quotePlus_noLt := fun s h => by simp at h
  upper_keepLt := fun _ h => h
  lower_keepLt := fun _ h => h
  capitalize_keepLt := fun _ h => h
  unquote_keepLt := fun _ h => h
  unquotePlus_keepLt := fun _ h => h

example : render { upper := id, lower := id, capitalize := id, urlQuote := id, urlQuotePlus := id,
                   urlUnquote := id, urlUnquotePlus := id }
    { written := ["upper", "sql_quote", "thousands_commas"], size := some "4".toList }
    (some (.str "<b>1234567".toList true)) = some (.ok "&lt;b&gt;1...".toList) := by decide +kernel

/-! #### the taint bookkeeping of DT_Var, translated from the source on every run (DTML/GenTaint.lean, harness/trans_taint.py)

`gen_*_is_spec`: the translation of the statements of the source = a hand-written specification, for *every* behaviour of
what the statements call (`Prims`, `call`); `*_is_model`: at the primitives of the model that is a stage function of
`VarPipe` (`retaint`, `finishStage`, `cfmtStage`, `applyMod` / `applyMods`, `fmtStage`).  These are the stages of which
`render` is made, and `render` is what the theorems above are stated about. -/
section Translated
open DTML.GenTaint DTML.Lemmas.Taint

/-- `_retaint` as translated = `VarPipe.retaint` -/
theorem gen_retaint_is_model (orig : Val) (r : Text) :
    retaintGen orig (.str r false) = retaint r (isTainted orig) := by
  unfold retaintGen retaint inVal taint hasLt
  cases h : (isTainted orig && (ustr (Val.str r false)).contains '<') <;> simp_all [ustr]

theorem gen_final_quote_is_model (s : Text) (t : Bool) :
    ustr (finalQuoteGen (.str s t)) = if t then escape s else s := by
  cases t <;> simp [finalQuoteGen, isTainted, quoted, ustr]

theorem gen_finish_is_model (sp : Spec) (s : Text) (t : Bool) :
    finishStage sp s t =
      (match sp.size with
       | none => (.ok (s, t) : R (Text × Bool))
       | some sz =>
         match parseInt sz with
         | none => .error .valueError
         | some n => .ok (truncate n (sp.etc.getD "...".toList) s t)).map
        (fun (p : Text × Bool) => ustr (finalQuoteGen (.str p.1 p.2))) := by
  unfold finishStage
  cases sp.size with
  | none => simp only [Except.map, gen_final_quote_is_model]
  | some sz => cases h : parseInt sz <;> simp only [h, Except.map, gen_final_quote_is_model]

theorem gen_cfmt_is_spec (P : Prims) (cfmt : Text) (v : Val) : cfmtGen P cfmt v = cfmtSpec P cfmt v := by
  unfold cfmtGen cfmtSpec
  simp only [bindM_pure]
  by_cases hc : cfmt = ['s']
  · subst hc
    cases isTainted v <;> rfl
  · rw [if_neg hc, if_neg (by simpa using hc)]
    cases P.pctC cfmt v with
    | none => rfl
    | some r =>
      cases r with
      | error e => rfl
      | ok r =>
        -- `v5 != 0` stands for the mark of `val`, `'<' in v7` is `hasLt`
        cases h : isTainted v <;> cases h2 : hasLt (ustr r) <;> simp_all [bindM, pureM, inVal, hasLt, taint]

theorem cfmt_spec_is_model (cfmt : Text) (v : Val) (x : Ext) :
    cfmtStage cfmt v = (cfmtSpec (modelPrims x) cfmt v).map (fun r => r.map pairOf) := by
  unfold cfmtStage cfmtSpec modelPrims modelPctC
  dsimp only
  by_cases hc : cfmt = ['s']
  · rw [if_pos hc, if_pos hc]
    cases v with
    | str s t => cases t <;> rfl
    | _ => rfl
  · rw [if_neg hc, if_neg hc]
    by_cases hd : cfmt = ['d']
    · rw [if_pos hd, if_pos hd]
      cases v with
      | str s t => cases t <;> rfl
      | _ => rfl
    · rw [if_neg hd, if_neg hd]
      rfl

theorem gen_cfmt_is_model (cfmt : Text) (v : Val) (x : Ext) :
    cfmtStage cfmt v = (cfmtGen (modelPrims x) cfmt v).map (fun r => r.map pairOf) := by
  rw [gen_cfmt_is_spec]; exact cfmt_spec_is_model cfmt v x

theorem gen_mod_step_is_spec (call : String → Val → Val) (f : String) (v : Val) :
    modStepGen call f v = modStepSpec call f v := by
  unfold modStepGen modStepSpec
  by_cases h : f = "html_quote" <;> cases h2 : isTainted v <;> simp [h]

theorem gen_mod_step_is_model (x : Ext) (m : String) (s : Text) (t : Bool) :
    modStepGen (modelCall x) m (.str s t) = valOf (applyMod x m s t) := by
  rw [gen_mod_step_is_spec]
  unfold modStepSpec modelCall
  by_cases h : m = "html_quote"
  · subst h
    cases t <;> simp [isTainted, applyMod, valOf, ustr]
  · simp [h, pairOf]

theorem gen_mod_loop_is_model (x : Ext) (ms : List String) (s : Text) (t : Bool) :
    modLoopGen (modelCall x) ms (.str s t) = valOf (applyMods x ms s t) := by
  unfold modLoopGen applyMods
  induction ms generalizing s t with
  | nil => rfl
  | cons m ms ih =>
    simp only [List.foldl_cons]
    rw [gen_mod_step_is_model]
    exact ih _ _

theorem gen_fmt_is_spec (P : Prims) (fmt : Text) (v : Val) : fmtGen P fmt v = fmtSpec P fmt v := by
  have e0 : "".toList = ([] : List Char) := rfl
  unfold fmtGen fmtSpec
  rw [e0]
  -- which name it is does not matter, and with a variable in its place `simp` has no literal `.toList` to evaluate
  generalize "html-quote".toList = q
  simp only [bindM_pure]
  -- the two chains make the same tests; they differ in how the html-quote arm and the %-format arm are written
  refine ite_congr rfl (fun _ => rfl) fun _ => ite_congr rfl (fun _ => ?_) fun _ => ?_
  · simp only [Bool.and_eq_true, beq_iff_eq, pureM]
  · refine ite_congr (by simp only [beq_iff_eq]) (fun _ => rfl) fun _ => ?_
    cases P.pct fmt v with
    | none => cases isTainted v <;> rfl
    | some r =>
      cases r with
      | error e => cases isTainted v <;> rfl
      | ok r => cases isTainted v <;> rfl

theorem fmt_spec_is_model (x : Ext) (fmt : Text) (v : Val) : fmtSpec (modelPrims x) fmt v = fmtStage x fmt v := by
  unfold fmtSpec fmtStage modelPrims
  dsimp only
  -- the same tests in the same order; what differs is how the arms are written
  refine ite_congr rfl (fun _ => ?_) fun _ => ite_congr rfl (fun _ => ?_) fun _ => ite_congr rfl (fun _ => rfl) fun _ => ?_
  · cases v <;> rfl
  · -- the two chains over the special formats differ only in where html-quote tests the mark
    unfold modelSpecial
    dsimp only
    by_cases h3 : String.ofList fmt = "html-quote"
    · rw [if_pos h3, if_pos h3]
      simp only [(ofList_eq_iff _ _).mp h3, true_and]
      rfl
    · rw [if_neg h3, if_neg h3, if_neg fun h => h3 ((ofList_eq_iff _ _).mpr h.1)]
      rfl
  · cases hp : pyFormat fmt v with
    | none => rfl
    | some r =>
      cases r with
      | error e => rfl
      | ok r => cases v with
        | str s t => cases t <;> rfl
        | _ => rfl

theorem gen_fmt_is_model (x : Ext) (fmt : Text) (v : Val) : fmtGen (modelPrims x) fmt v = fmtStage x fmt v := by
  rw [gen_fmt_is_spec]; exact fmt_spec_is_model x fmt v

/-- whatever the format code of the tag and whatever `%` does with it: a TaintedString leaves the C-style format stage of
the source (as translated) marked, or without a `<` -/
theorem gen_cfmt_safe_any_code (P : Prims) (cfmt s : Text) (r : Val)
    (h : cfmtGen P cfmt (.str s true) = some (.ok r)) : ('<' ∈ (pairOf r).1 → (pairOf r).2 = true) := by
  rw [gen_cfmt_is_spec] at h
  unfold cfmtSpec at h
  split at h
  · cases h
    exact fun _ => rfl
  · split at h
    · cases h
    · cases h
    next r' _ =>  -- any other code: the result of `%` is marked again if it holds a `<`
      cases h
      simp only [isTainted, Bool.true_and]
      split
      · exact fun _ => rfl
      next hl =>
        intro hm
        rw [pairOf_fst] at hm
        exact absurd ((hasLt_iff _).mpr hm) hl

end Translated

end DTML.Props.C04
