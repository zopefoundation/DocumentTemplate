/-
C07 — The three surface syntaxes of a template compile and render identically.
Model: DTML/Scan.lean (the HTML/SSI scanner `candidate`) and DTML/Parse.lean (`tagRole` = parseTag of both classes,
`buildAux` = the shared block builder).

The argument has two halves.  The builder looks at a token only through (is-end?, name, arguments) — never at the tag's
own text — so two token streams that agree on those compile to the same tree (`build_congr_html`), and the HTML and
%(…) classes give a token the same role (`tagRole_epfs_eq_html`).  The scanner produces such agreeing tokens for the
spellings of one tag (`dtml_ssi_same_token`, `entity_is_var_html_quote`, `dotted_entity_is_var`), and for whole documents
printed in the `<dtml-…>` and the `<!--#…-->` spelling (`dtml_ssi_documents_same_stream`,
`dtml_ssi_documents_compile_same`; printer / scanner round trip in Lemmas/Print.lean).  Rendering, errors and calls are
functions of the compiled tree, hence equal.

The builder half works on one step of the builder, `C06.stepTok`, which is declared in Lemmas/Builder.lean; the scanner half
on the lemmas about `candidate` in Lemmas/Scanner.lean.  The last section holds the obligations on `HTML.parseTag`,
`String.parseTag` and `String._parseTag` as translated on every run (GenParseTag, with Lemmas/ParseTag).
-/
import DTML.Scan
import DTML.Parse
import DTML.Lemmas.Print
import DTML.Lemmas.ParseTag
import DTML.Lemmas.Builder
namespace DTML.Props.C07
open DTML.Scan DTML.Parse

/-! #### the builder sees tokens only through their meaning -/

/-- two tokens with the same meaning: same end flag, name and arguments (their texts may differ) -/
def SameTok (a b : Tok) : Prop := a.isEnd = b.isEnd ∧ a.name = b.name ∧ a.args = b.args

theorem tagRole_html_congr (a b : Tok) (h : SameTok a b) (ctx : Option (Cmd × Text)) :
    tagRole .html a ctx = tagRole .html b ctx := by
  obtain ⟨h1, h2, h3⟩ := h
  unfold tagRole
  simp only [h1, h2, h3]

/-- pointwise relation of two token streams: same literals, tokens of the same meaning -/
inductive SameStream : List (Text × Tok) → List (Text × Tok) → Prop where
  | nil : SameStream [] []
  | cons {l : Text} {a b : Tok} {ps qs : List (Text × Tok)} :
      SameTok a b → SameStream ps qs → SameStream ((l, a) :: ps) ((l, b) :: qs)

theorem stepTok_congr (a b : Tok) (h : SameTok a b) (σ : C06.BState) (l : Text) :
    C06.stepTok .html σ (l, a) = C06.stepTok .html σ (l, b) := by
  simp only [C06.stepTok, tagRole_html_congr a b h]
  rfl

/-- **The block builder does not depend on how a tag was spelled**: token streams with the same
literals and tokens of the same meaning build the same tree, list the same expressions, and
fail with the same error at the same token. -/
theorem build_congr_html : ∀ (ps qs : List (Text × Tok)), SameStream ps qs →
    ∀ (tail : Text) (idx : Nat) (ab : Bool) (stack : List Frame) (top : List Node) (ex : List ExprUse),
    buildAux .html ps tail idx ab stack top ex = buildAux .html qs tail idx ab stack top ex := by
  intro ps qs h
  induction h with
  | nil => intro tail idx ab stack top ex; rfl
  | cons ht _ ih =>
    intro tail idx ab stack top ex
    rw [C06.buildAux_cons .html _ _ tail ⟨idx, ab, stack, top, ex⟩, C06.buildAux_cons .html _ _ tail ⟨idx, ab, stack, top, ex⟩,
      stepTok_congr _ _ ht]
    cases C06.stepTok .html _ _ with
    | error e => rfl
    | ok σ' => exact ih tail _ _ _ _ _

/-- what a `%(name args)fmt` token means for the HTML class: `]` closes, `[` / `!` open or
continue, any other format letter is the short form of `var` -/
def epfsAsHtml (t : Tok) : Tok :=
  if t.fmt = [']'] then { t with isEnd := true }
  else if t.fmt = ['['] || t.fmt = ['!'] then { t with isEnd := false }
  else { t with isEnd := false, name := "var".toList,
                args := if (pyStrip t.args).isEmpty then t.name else t.name ++ [' '] ++ pyStrip t.args }

theorem var_never_continues (c : Cmd) : (c.continuations.getD []).contains "var" = false := by
  cases c <;> decide

/-- a `var` start tag is a simple tag wherever it stands: no block lists `var` as a continuation -/
theorem tagRole_html_var (t : Tok) (ctx : Option (Cmd × Text)) (hn : t.name = "var".toList) (he : t.isEnd = false) :
    tagRole .html t ctx = .ok (.start .var (pyStrip t.args)) := by
  have hv : String.ofList "var".toList = "var" := rfl
  simp only [tagRole, he, hn, hv, Bool.false_eq_true, if_false]
  cases ctx with
  | none => rfl
  | some c =>
    obtain ⟨c, sargs⟩ := c
    dsimp only
    rw [var_never_continues c, if_neg Bool.false_ne_true]
    rfl

/-- **Both template classes give a tag the same role**: String.parseTag on a `%(…)` token is
HTML.parseTag on the corresponding `<dtml-…>` token (for the short form `%(name args)s` of var:
when the constructed argument text `name args` has no blanks at its ends, which holds for every
token the %(…) scanner produces, its name being non-empty and free of blanks) -/
theorem tagRole_epfs_eq_html (t : Tok) (ctx : Option (Cmd × Text))
    (hstrip : pyStrip (epfsAsHtml t).args = if t.fmt = [']'] ∨ t.fmt = ['['] ∨ t.fmt = ['!'] then pyStrip t.args
                                             else (epfsAsHtml t).args) :
    tagRole .epfs t ctx = tagRole .html (epfsAsHtml t) ctx := by
  by_cases h1 : t.fmt = [']']
  · simp only [tagRole, epfsAsHtml, h1, if_true]
  · by_cases h2 : (t.fmt = ['['] || t.fmt = ['!']) = true
    · simp only [tagRole, epfsAsHtml, h1, h2, if_true, if_false, Bool.false_eq_true]
    · have h3 : ¬ (t.fmt = [']'] ∨ t.fmt = ['['] ∨ t.fmt = ['!']) := by
        simpa [h1] using h2
      rw [if_neg h3] at hstrip
      have hE : epfsAsHtml t = { t with isEnd := false, name := "var".toList,
                                        args := if (pyStrip t.args).isEmpty then t.name else t.name ++ [' '] ++ pyStrip t.args } := by
        simp only [epfsAsHtml, h1, h2, if_false, Bool.false_eq_true]
      rw [tagRole_html_var _ ctx (by rw [hE]) (by rw [hE]), hstrip, hE]
      simp only [tagRole, h1, h2, if_false, Bool.false_eq_true]

/-! #### the scanner gives the spellings of one tag the same meaning -/

theorem findCloseAux_clean : ∀ (b : Text) (i : Nat), (∀ c ∈ b, c ≠ '>' ∧ c ≠ '"') → (1 ≤ i ∨ b ≠ []) →
    findCloseAux (b ++ ['>']) i true = some (i + b.length) := by
  intro b i hb h
  refine Lemmas.Scanner.findCloseAux_walk b [] i true (Lemmas.Scanner.gtQuoted_of_no_gt b i true fun c hc => (hb c hc).1)
    (Lemmas.Scanner.qwalk_of_no_quote b true fun c hc => (hb c hc).2) ?_
  rcases h with h | h
  · omega
  · have := List.length_pos_iff.mpr h
    omega

theorem findSub_arrow : ∀ (b : Text), (∀ c ∈ b, c ≠ '>') → findSub "-->".toList (b ++ "-->".toList) = some b.length :=
  Lemmas.Print.findSub_arrow

theorem nameMatchLen_append (b suf : Text) (x : Char) (r : Text) (hs : suf = x :: r)
    (h1 : isCtl x = false) (h2 : isAsciiAlpha x = false) :
    nameMatchLen (b ++ suf) = nameMatchLen b := by
  subst hs
  exact Lemmas.Scanner.nameMatchLen_stop b (x :: r) fun c hc => by cases hc; exact ⟨h1, h2⟩

/-- **`<dtml-X args>` and `<!--#X args-->` are the same token** (same name, same arguments, both
start tags), for every tag body free of `>` and `"`; a body that does not start with a tag name is no
tag in either spelling. -/
theorem dtml_ssi_same_token (body : Text) (hb : ∀ c ∈ body, c ≠ '>' ∧ c ≠ '"') (hne : body ≠ [])
    (hend : endMatchLen (body ++ "-->".toList) = none) :
    (nameMatchLen body = none →
       candidate ("<dtml-".toList ++ body ++ ['>']) = .skip ∧
       candidate ("<!--#".toList ++ body ++ "-->".toList) = .skip) ∧
    (∀ l, nameMatchLen body = some l →
       ∃ t1 t2, candidate ("<dtml-".toList ++ body ++ ['>']) = .tok (6 + body.length + 1) t1 ∧
                candidate ("<!--#".toList ++ body ++ "-->".toList) = .tok (5 + body.length + 3) t2 ∧ SameTok t1 t2 ∧
                t1.name = pyStrip (body.take l) ∧ t1.args = pyStrip (body.drop l) ∧ t1.isEnd = false) := by
  have hc : findClose (body ++ ['>']) = some body.length := by
    rw [findClose, findCloseAux_clean body 0 hb (Or.inr hne), Nat.zero_add]
  have hs := findSub_arrow body (fun c hc => (hb c hc).1)
  -- in both spellings the closing marker stands right behind the body and cannot continue a name
  rw [List.append_assoc, List.append_assoc, Lemmas.Scanner.candidate_dtml, Lemmas.Scanner.candidate_ssi _ hend,
    Lemmas.Scanner.angle_closed findClose 1 false _ body ['>'] (fun c hc => by cases hc; exact ⟨by decide, by decide⟩) hc,
    Lemmas.Scanner.angle_closed _ 3 false _ body "-->".toList (fun c hc => by cases hc; exact ⟨by decide, by decide⟩) hs]
  constructor
  · intro hn
    rw [hn]
    exact ⟨rfl, rfl⟩
  · intro l hl
    rw [hl]
    exact ⟨_, _, rfl, rfl, ⟨rfl, rfl, rfl⟩, rfl, rfl, rfl⟩

/-- **`&dtml-name;` is `<dtml-var name html_quote>`** -/
theorem entity_is_var_html_quote (n rest : Text) (hne : n ≠ []) (hn : ∀ c ∈ n, isEntChar c = true) :
    candidate ("&dtml-".toList ++ n ++ ';' :: rest) =
      .tok (6 + n.length + 1) ⟨("&dtml-".toList ++ n ++ ';' :: rest).take (6 + n.length + 1), false, "var".toList,
                                n ++ " html_quote".toList, []⟩ := by
  rw [List.append_assoc, Lemmas.Scanner.candidate_entity,
    Lemmas.Scanner.findSub_single_append ';' n rest (fun c hc => Lemmas.Scanner.entChar_not_semicolon c (hn c hc))]
  dsimp only
  rw [List.take_left' rfl, List.all_eq_true.mpr hn, List.isEmpty_eq_false_iff.mpr hne]
  rfl

/-- **`&dtml.m1.m2-name;` is `<dtml-var name m1 m2>`** (modifiers separated by dots, none containing '-') -/
theorem dotted_entity_is_var (mods name rest : Text) (hm : ∀ c ∈ mods, isEntChar c = true ∧ c ≠ '-')
    (hname : name ≠ []) (hn : ∀ c ∈ name, isEntChar c = true) :
    candidate ("&dtml.".toList ++ (mods ++ '-' :: name) ++ ';' :: rest) =
      .tok (6 + (mods ++ '-' :: name).length + 1)
        ⟨("&dtml.".toList ++ (mods ++ '-' :: name) ++ ';' :: rest).take (6 + (mods ++ '-' :: name).length + 1), false,
         "var".toList, name ++ [' '] ++ mods.map (fun c => if c = '.' then ' ' else c), []⟩ := by
  have hargs : ∀ c ∈ mods ++ '-' :: name, isEntChar c = true := by
    intro c hc
    rcases List.mem_append.mp hc with h | h
    · exact (hm c h).1
    · rcases List.mem_cons.mp h with rfl | h
      · decide
      · exact hn c h
  have hlen : mods.length < (mods ++ '-' :: name).length - 1 := by
    rw [List.length_append, List.length_cons]
    have := List.length_pos_iff.mpr hname
    omega
  have hdrop : (mods ++ '-' :: name).drop (mods.length + 1) = name := by
    rw [← List.drop_drop, List.drop_left]
    rfl
  rw [List.append_assoc, Lemmas.Scanner.candidate_entity_dot,
    Lemmas.Scanner.findSub_single_append ';' _ rest (fun c hc => Lemmas.Scanner.entChar_not_semicolon c (hargs c hc))]
  dsimp only
  rw [List.take_left' rfl, List.all_eq_true.mpr hargs,
    List.isEmpty_eq_false_iff.mpr (List.append_ne_nil_of_right_ne_nil _ (List.cons_ne_nil _ _)),
    Lemmas.Scanner.findSub_single_append '-' mods name (fun c hc => (hm c hc).2)]
  dsimp only
  rw [if_pos (show (!false && true) = true from rfl), if_pos hlen, hdrop, List.take_left' rfl]

section Documents
open DTML.Lemmas.Print

/-! #### whole documents: the `<dtml-…>` and the `<!--#…-->` spelling of one document -/

theorem same_stream_printed (items : List Item) :
    SameStream (items.map (fun i => (i.lit, tokOf (printDtml i) i)))
               (items.map (fun i => (i.lit, tokOf (printSsi i) i))) := by
  induction items with
  | nil => exact .nil
  | cons i r ih => exact .cons ⟨rfl, rfl, rfl⟩ ih

/-- **A document spelled with `<dtml-…>` tags and the same document spelled with `<!--#…-->` tags
are scanned into the same token stream** (same literals, tokens of the same meaning, same trailing
text) — for every list of (literal, tag) items whose literals contain no `<` / `&`, whose names are
letters (not starting with `end` for a start tag) and whose arguments are stripped and free of `>`. -/
theorem dtml_ssi_documents_same_stream (items : List Item) (tail : Text) (hw : ∀ i ∈ items, WfSsi i) (ht : CleanLit tail) :
    SameStream (tokens .html (printDoc printDtml items tail)).1 (tokens .html (printDoc printSsi items tail)).1 ∧
    (tokens .html (printDoc printDtml items tail)).2 = (tokens .html (printDoc printSsi items tail)).2 := by
  rw [tokens_dtml items tail (fun i hi => (hw i hi).1) ht, tokens_ssi items tail hw ht]
  exact ⟨same_stream_printed items, rfl⟩

/-- … and therefore **compile to the same tree, or fail with the same error at the same tag** -/
theorem dtml_ssi_documents_compile_same (items : List Item) (tail : Text) (hw : ∀ i ∈ items, WfSsi i) (ht : CleanLit tail) :
    compile .html (printDoc printDtml items tail) = compile .html (printDoc printSsi items tail) := by
  unfold compile
  rw [tokens_dtml items tail (fun i hi => (hw i hi).1) ht, tokens_ssi items tail hw ht]
  exact build_congr_html _ _ (same_stream_printed items) tail 0 false [] [] []

section Example
private def doc : List Item :=
  [⟨"a ".toList, false, "if".toList, "x".toList⟩, ⟨"yes".toList, false, "else".toList, []⟩,
   ⟨"no".toList, true, "if".toList, []⟩]
-- the hypotheses are satisfiable, and the two spellings are what one expects
example : printDoc printDtml doc " z".toList = "a <dtml-if x>yes<dtml-else>no</dtml-if> z".toList := by decide +kernel
example : printDoc printSsi doc " z".toList = "a <!--#if x-->yes<!--#else-->no<!--#/if--> z".toList := by decide +kernel
example : ∀ i ∈ doc, WfSsi i := by
  unfold WfSsi WfDtml WfName WfArgs CleanLit
  decide +kernel
end Example

end Documents

/-! #### obligations on the translated `parseTag` of the two classes (GenParseTag.lean, regenerated on every run)

`tagRole` - what the first half is stated about - is what `HTML.parseTag` and `String.parseTag` of the current source compute,
statement by statement (lemmas in Lemmas/ParseTag.lean); `ctx` is the innermost open block: its command and the
arguments of its start tag (`command`, `sargs`), absent at top level. -/

open DTML.GenParseTag in
/-- `HTML.parseTag` (the `<dtml-…>` / `<!--#…-->` / `&dtml-…;` syntaxes) -/
theorem gen_html_parseTag_is_model (tk : Tok) (ctx : Option (Cmd × Text)) :
    parseTagHtmlGen tk (ctx.map (·.1)) ((ctx.map (·.2)).getD []) = tagRole .html tk ctx :=
  DTML.Lemmas.ParseTag.html_eq tk ctx

open DTML.GenParseTag in
/-- `String.parseTag` (the `%(…)s` syntax) -/
theorem gen_string_parseTag_is_model (tk : Tok) (ctx : Option (Cmd × Text)) :
    parseTagEpfsGen tk (ctx.map (·.1)) ((ctx.map (·.2)).getD []) = tagRole .epfs tk ctx :=
  DTML.Lemmas.ParseTag.epfs_eq tk ctx

open DTML.GenParseTag in
/-- `String._parseTag`, the entry `parse` / `parse_block` call: around either `parseTag` it is `tagRole` of the syntax,
also with the defaults of the source (`command=None, sargs=''`) at top level -/
theorem gen_parseTag_wrapper_is_model (syn : Syntax) (tk : Tok) (ctx : Option (Cmd × Text)) :
    DTML.Lemmas.ParseTag.parseTagGen syn tk (ctx.map (·.1)) ((ctx.map (·.2)).getD []) = tagRole syn tk ctx ∧
    wrapGen @parseTagHtmlGen tk = tagRole .html tk none ∧ wrapGen @parseTagEpfsGen tk = tagRole .epfs tk none :=
  ⟨DTML.Lemmas.ParseTag.parseTagGen_eq syn tk ctx, DTML.Lemmas.ParseTag.parseTagGen_eq .html tk none,
   DTML.Lemmas.ParseTag.parseTagGen_eq .epfs tk none⟩

/-- a lazily imported command (`(cname, module, class)` in `String.commands`) is stored back under the key it was found
under, and that key is a command of the table `Cmd.ofName` was checked against -/
theorem gen_lazy_commands_keep_their_key :
    ∀ e ∈ DTML.GenParseTag.lazyCommandsGen, e.1 = e.2.1 ∧ (Cmd.ofName e.1).isSome = true := by
  decide +kernel

/-- hence `tagRole_epfs_eq_html`, stated on the translated methods: String.parseTag on a `%(…)` token is HTML.parseTag on
the corresponding `<dtml-…>` token (same side condition on the constructed argument text) -/
theorem gen_parseTag_epfs_eq_html (t : Tok) (ctx : Option (Cmd × Text))
    (hstrip : pyStrip (epfsAsHtml t).args = if t.fmt = [']'] ∨ t.fmt = ['['] ∨ t.fmt = ['!'] then pyStrip t.args
                                             else (epfsAsHtml t).args) :
    DTML.GenParseTag.parseTagEpfsGen t (ctx.map (·.1)) ((ctx.map (·.2)).getD []) =
      DTML.GenParseTag.parseTagHtmlGen (epfsAsHtml t) (ctx.map (·.1)) ((ctx.map (·.2)).getD []) := by
  rw [gen_html_parseTag_is_model, gen_string_parseTag_is_model]
  exact tagRole_epfs_eq_html t ctx hstrip

end DTML.Props.C07
