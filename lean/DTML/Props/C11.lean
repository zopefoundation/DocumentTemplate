/-
C11 — Batch windows stay in range, tile the sequence and link consistently.
Property theorems only (helper lemmas are `private`).
Model: DTML/Batch.lean (`opt`, `window`, `links`, `follow`, `followPrev`), with Lemmas/Opt for what `opt` computes mode by
mode; `opt` and the loops of `next_batches` / `previous_batches` are tied to the source as translated on every run
(GenCode).  The last section ties the prologue of `InClass.renderwb` and `int_param` as translated on every run (GenIn,
harness/trans_in.py) to `window` and to the interpreter (DTML/Render.lean: `resolveNames`, `bwinOf`, `batchInit`,
`prevInfo` / `nextInfo`, the `previous` / `next` branches of `inBatch`), with Lemmas/InBatchGen.
-/
import DTML.Batch
import DTML.Lemmas.Opt
import DTML.Gen
import DTML.GenCode
import DTML.Basic
import DTML.Lemmas.InBatchGen
namespace DTML.Props.C11
open DTML.Batch

/-- **The model is what the source says**: `GenCode.optGen` is regenerated on every run by translating the statements
of `DT_InSV.opt` in /repo (assignments, if / elif / else, `try: sequence[i] except: …` probes, `len(sequence)`); it
computes the same function as the hand-written `Batch.opt`, about which the theorems below are stated.  A change of
`opt()` in the source changes the left-hand side and this theorem stops checking. -/
theorem gen_opt_is_model (start end_ size orphan : Int) (s : Seq) :
    GenCode.optGen start end_ size orphan s = opt start end_ size orphan s := by
  -- read the record of the source's variables field by field (`apply_ite`): an assignment under an `if` is an `if` in
  -- that field and passes the others through (`ite_self`), so every variable becomes a cascade of its own - the size
  -- under its name `effSize` on both sides, which keeps the terms small ...
  simp only [GenCode.optGen, opt, ← effSize.eq_1, apply_ite GenCode.OptSt.start, apply_ite GenCode.OptSt.end_,
    apply_ite GenCode.OptSt.size, apply_ite GenCode.OptSt.orphan, ite_self]
  -- ... and whichever of `start` / `end` is given, the three cascades are the components of the model's triple
  by_cases ha : start > 0 <;> by_cases hb : end_ > 0 <;> simp only [ha, hb, if_true, if_false]

/-- **The neighbours are computed from the window the way the model says** — the argument texts of every `opt(…)`
call in `renderwb`, `next_batches` and `previous_batches`, extracted from /repo's source on every run: the window
itself, then (twice: in the `previous` / `next` forms and in the item loop) the previous batch as
`opt(0, first + overlap, sz, orphan)` and the next batch as `opt(end + 1 - overlap, 0, sz, orphan)` — these are
`Batch.links`' two calls — and the same two steps in the batch lists. -/
theorem gen_opt_calls :
    Gen.renderwb_optCalls = ["start, end, size, orphan, sequence",
      "0, first + overlap, sz, orphan, sequence", "end + 1 - overlap, 0, sz, orphan, sequence",
      "0, first + overlap, sz, orphan, sequence", "end + 1 - overlap, 0, sz, orphan, sequence"] ∧
    Gen.renderwob_optCalls = [] ∧
    Gen.next_batches_optCalls = ["end + 1 - overlap, 0, sz, orphan, sequence"] ∧
    Gen.previous_batches_optCalls = ["0, start - 1 + overlap, sz, orphan, sequence"] := ⟨rfl, rfl, rfl, rfl⟩

/-- The displayed window is inside the sequence: `1 ≤ start ≤ end ≤ length`,
for every parameter tuple (given or absent = 0, negative, oversized). -/
theorem opt_window (start end_ size orphan : Int) (s : Seq)
    (hl : 1 ≤ s.len) (ho : 0 ≤ orphan) :
    let w := window start end_ size orphan s
    1 ≤ w.1 ∧ w.1 ≤ w.2.1 ∧ w.2.1 ≤ s.len :=
  have h := window_range start end_ size orphan s hl ho
  ⟨h.1, h.2.1, h.2.2.1⟩

/-- An explicit window inside the sequence is displayed as given. -/
theorem explicit_window (start end_ size orphan : Int) (s : Seq)
    (h1 : 1 ≤ start) (h2 : start ≤ end_) (h3 : end_ ≤ s.len) :
    let w := window start end_ size orphan s
    w.1 = start ∧ w.2.1 = end_ := by
  simp only [window]
  rw [opt_span _ _ size orphan s h1 (Int.le_trans h1 h2), Int.min_eq_left (Int.le_trans h2 h3), Int.max_eq_left h2]
  simp only
  rw [clamp_eq s _ (Int.le_trans h1 h2), Int.min_eq_left h3]
  exact ⟨trivial, rfl⟩

/-- With `start` and `size` only: the window ends at `start+size-1` unless
fewer than `orphan` elements would remain after it; then it runs to the end. -/
theorem opt_size_orphan (start size orphan : Int) (s : Seq)
    (h1 : 1 ≤ start) (h2 : start ≤ s.len) (hs : 1 ≤ size) (ho : 0 ≤ orphan) :
    let w := window start 0 size orphan s
    w.1 = start ∧
    w.2.1 = (if s.len - (start + size - 1) < orphan then s.len else start + size - 1) := by
  rw [window_eq _ _ _ _ _ (by omega) ho, opt_from _ _ _ _ s (Int.le_refl 0) (by omega) ho, effSize_of_pos _ _ _ hs,
    show min (max 1 start) s.len = start by omega]
  simp only [true_and]
  omega

/-- next-sequence is announced exactly when elements remain after the window,
previous-sequence exactly when elements precede it. -/
theorem next_prev_flags (st e sz orphan overlap : Int) (s : Seq)
    (h1 : 1 ≤ st) (h2 : st ≤ e) (_h3 : e ≤ s.len) :
    let l := links st e sz orphan overlap s
    (l.nextFlag = true ↔ e < s.len) ∧ (l.prevFlag = true ↔ 1 < st) := by
  simp only [links, probe_nonneg s e (by omega), decide_eq_true_eq, true_and]
  omega

set_option linter.unusedVariables false in
/-- The announced next batch starts at `end+1-overlap`; the announced previous
batch ends at `start-1+overlap` (both clamped into the sequence). -/
theorem link_positions (st e sz orphan overlap : Int) (s : Seq)
    (h1 : 1 ≤ st) (h2 : st ≤ e) (h3 : e ≤ s.len) (ho : 0 ≤ overlap) :
    let l := links st e sz orphan overlap s
    (e < s.len → l.nextStart = max 1 (e + 1 - overlap)) ∧
    (1 < st → l.prevEnd = min s.len (st - 1 + overlap)) := by
  simp only [links]
  refine ⟨fun _ => ?_, fun _ => ?_⟩
  · rw [opt_from_start _ _ _ _ s (Int.le_refl 0) (by omega)]
    omega
  · rw [opt_upto _ _ _ _ s (Int.le_refl 0) (by omega)]
    simp only
    omega

/-- The announced neighbours are themselves windows inside the sequence. -/
theorem links_in_range (st e sz orphan overlap : Int) (s : Seq)
    (h1 : 1 ≤ st) (h2 : st ≤ e) (h3 : e ≤ s.len) (ho : 0 ≤ overlap) (hor : 0 ≤ orphan)
    (hsz : 1 ≤ sz) :
    let l := links st e sz orphan overlap s
    (1 ≤ l.nextStart ∧ l.nextStart ≤ l.nextEnd ∧ l.nextEnd ≤ s.len) ∧
    (1 < st → 1 ≤ l.prevStart ∧ l.prevStart ≤ l.prevEnd ∧ l.prevEnd ≤ s.len) := by
  simp only [links]
  refine ⟨?_, fun _ => ?_⟩
  · rw [opt_from _ _ _ _ s (Int.le_refl 0) (by omega) hor, effSize_of_pos _ _ _ hsz]
    simp only
    omega
  · rw [opt_upto _ _ _ _ s (Int.le_refl 0) (by omega), effSize_of_pos _ _ _ hsz]
    simp only
    omega

private theorem window_step (start size orphan : Int) (s : Seq)
    (h1 : 1 ≤ start) (h2 : start ≤ s.len) (hs : 1 ≤ size) (ho : 0 ≤ orphan) :
    let w := window start 0 size orphan s
    w.1 = start ∧ start ≤ w.2.1 ∧ w.2.1 ≤ s.len ∧ w.2.2 = size ∧
    (w.2.1 = s.len ∨ w.2.1 = start + size - 1) := by
  rw [window_eq _ _ _ _ _ (by omega) ho, opt_from _ _ _ _ s (Int.le_refl 0) (by omega) ho, effSize_of_pos _ _ _ hs,
    show min (max 1 start) s.len = start by omega]
  simp only [true_and]
  omega

private theorem nb_step (e sz orphan overlap : Int) (s : Seq)
    (h1 : 1 ≤ e) (h2 : e < s.len) (hs : 1 ≤ sz) (ho : 0 ≤ orphan) (hov : 0 ≤ overlap) (hlt : overlap < sz)
    (hoe : overlap < e) :
    let o := opt (e + 1 - overlap) 0 sz orphan s
    o.1 = e + 1 - overlap ∧ e < o.2.1 ∧ o.2.1 ≤ s.len := by
  rw [opt_from _ _ _ _ s (Int.le_refl 0) (by omega) ho, effSize_of_pos _ _ _ hs,
    show min (max 1 (e + 1 - overlap)) s.len = e + 1 - overlap by omega]
  simp only [true_and]
  omega

private theorem pb_step (st sz orphan overlap : Int) (s : Seq)
    (h1 : 1 < st) (h2 : st ≤ s.len) (hs : 1 ≤ sz) (ho : 0 ≤ orphan) (hov : 0 ≤ overlap) (hlt : overlap < sz) :
    let o := opt 0 (st - 1 + overlap) sz orphan s
    1 ≤ o.1 ∧ o.1 < st ∧ o.1 ≤ o.2.1 ∧ o.2.1 = min s.len (st - 1 + overlap) := by
  rw [opt_upto _ _ _ _ s (Int.le_refl 0) (by omega), effSize_of_pos _ _ _ hs]
  simp only
  omega

/-- `x` put in front of a list that starts with an element whose `f` is `a`: the last element is the same, and the list
stays linked when `x` is related to every element that can come first -/
private theorem linked_cons {α β : Type} {R : α → α → Prop} {f : α → β} {a : β} {x : α} {rest : List α}
    (hhead : rest.head?.map f = some a) (hlink : Linked R rest) (hx : ∀ r ∈ rest, f r = a → R x r) :
    (x :: rest).getLast? = rest.getLast? ∧ Linked R (x :: rest) := by
  cases rest with
  | nil => simp at hhead
  | cons r rs => exact ⟨List.getLast?_cons_cons, hx r List.mem_cons_self (by simpa using hhead), hlink⟩

/-- the same for a list that is empty unless `A` holds - how a batch list goes on after the batch `x`: `A` says that `x`
does not reach the end yet, `a` where the batch after it begins, `z` where the last batch ends (`x` itself when none
follows) -/
private theorem linked_cons_if {α β γ : Type} {R : α → α → Prop} {f : α → β} {a : β} {g : α → γ} {z : γ} {A : Prop}
    {x : α} {rest : List α}
    (hhead : A → rest.head?.map f = some a) (hlast : A → rest.getLast?.map g = some z) (hnil : ¬ A → rest = [])
    (hz : ¬ A → g x = z) (hlink : Linked R rest) (hx : ∀ r ∈ rest, f r = a → R x r) :
    (x :: rest).getLast?.map g = some z ∧ Linked R (x :: rest) := by
  by_cases hA : A
  · have h := linked_cons (hhead hA) hlink hx
    exact ⟨h.1 ▸ hlast hA, h.2⟩
  · rw [hnil hA]
    exact ⟨congrArg some (hz hA), trivial⟩

/-- `ws` is a run of windows from `start` to the end of the sequence, each starting `overlap` elements before the end of
the one before it (what `tiling` says of the run from 1) -/
private def Tiles (overlap start len : Int) (ws : List (Int × Int)) : Prop :=
  (ws.head?.map (·.1) = some start) ∧
  (ws.getLast?.map (·.2) = some len) ∧
  Linked (fun a b => b.1 = a.2 + 1 - overlap ∧ a.1 < b.1) ws ∧
  (∀ k, start ≤ k → k ≤ len → ∃ w ∈ ws, w.1 ≤ k ∧ k ≤ w.2)

private theorem Tiles.single (overlap start len : Int) : Tiles overlap start len [(start, len)] :=
  ⟨rfl, rfl, trivial, fun _ h1 h2 => ⟨_, List.mem_singleton.mpr rfl, h1, h2⟩⟩

private theorem Tiles.cons {overlap start e len : Int} {ws : List (Int × Int)}
    (h : Tiles overlap (e + 1 - overlap) len ws) (hlt : start < e + 1 - overlap) (hov : 0 ≤ overlap) :
    Tiles overlap start len ((start, e) :: ws) := by
  obtain ⟨i1, i2, i3, i4⟩ := h
  obtain ⟨l1, l2⟩ := linked_cons (x := (start, e)) i1 i3 fun r _ hr => ⟨hr, by simp only; omega⟩
  refine ⟨rfl, l1 ▸ i2, l2, fun k hk1 hk2 => ?_⟩
  by_cases hk : k ≤ e
  · exact ⟨_, List.mem_cons_self, hk1, hk⟩
  · obtain ⟨x, hx, hx1, hx2⟩ := i4 k (by omega) hk2
    exact ⟨x, List.mem_cons_of_mem _ hx, hx1, hx2⟩

private theorem follow_spec (size orphan overlap : Int) (s : Seq)
    (hs : 1 ≤ size) (ho : 0 ≤ orphan) (hov : 0 ≤ overlap) (hlt : overlap < size) :
    ∀ (fuel : Nat) (start : Int), 1 ≤ start → start ≤ s.len → s.len - start ≤ fuel →
    Tiles overlap start s.len (follow size orphan overlap s fuel start) := by
  intro fuel
  induction fuel with
  | zero =>
    intro start h1 h2 hf
    obtain ⟨hw1, hw2, hw3, -, -⟩ := window_step start size orphan s h1 h2 hs ho
    simp only [follow]
    rw [hw1, show (window start 0 size orphan s).2.1 = s.len by omega]
    exact .single ..
  | succ n ih =>
    intro start h1 h2 hf
    have hw := window_step start size orphan s h1 h2 hs ho
    simp only [follow]
    generalize window start 0 size orphan s = w at hw ⊢
    obtain ⟨hw1, hw2, hw3, hw4, hw5⟩ := hw
    rw [hw1, probe_nonneg _ _ (by omega)]
    simp only [decide_eq_true_eq]
    split
    next he =>
      rw [hw4, (nb_step w.2.1 size orphan overlap s (Int.le_trans h1 hw2) he hs ho hov hlt (by omega)).1]
      exact .cons (ih _ (by omega) (by omega) (by omega)) (by omega) hov
    next =>
      rw [show w.2.1 = s.len by omega]
      exact .single ..

/-- **Tiling.**  For `0 ≤ overlap < size`, following `next-sequence-start-number`
from 1 shows windows that start at 1, end at the length, each next one starting
exactly `overlap` elements before the previous one's end (so neighbours share
exactly `overlap` elements) with strictly increasing starts, and every element
`1..len` is shown.  The click sequence terminates: `len` clicks always suffice. -/
theorem tiling (size orphan overlap : Int) (s : Seq) (fuel : Nat)
    (hs : 1 ≤ size) (ho : 0 ≤ orphan) (hov : 0 ≤ overlap) (hlt : overlap < size)
    (hl : 1 ≤ s.len) (hf : s.len ≤ fuel) :
    let ws := follow size orphan overlap s fuel 1
    (ws.head?.map (·.1) = some 1) ∧
    (ws.getLast?.map (·.2) = some s.len) ∧
    Linked (fun a b => b.1 = a.2 + 1 - overlap ∧ a.1 < b.1) ws ∧
    (∀ k, 1 ≤ k → k ≤ s.len → ∃ w ∈ ws, w.1 ≤ k ∧ k ≤ w.2) :=
  follow_spec size orphan overlap s hs ho hov hlt fuel 1 (by omega) hl (by omega)

/-- Following `previous-sequence-start-number` from any window start reaches
element 1, through strictly decreasing starts. -/
theorem tiling_prev (size orphan overlap : Int) (s : Seq)
    (hs : 1 ≤ size) (ho : 0 ≤ orphan) (hov : 0 ≤ overlap) (hlt : overlap < size) :
    ∀ (fuel : Nat) (start : Int), 1 ≤ start → start ≤ s.len → start ≤ fuel →
    let ps := followPrev size orphan overlap s fuel start
    ps.getLast? = some 1 ∧ Linked (fun a b => b < a) ps ∧ ps.head? = some start := by
  intro fuel
  induction fuel with
  | zero => intro start h1 h2 hf; omega
  | succ n ih =>
    intro start h1 h2 hf
    simp only [followPrev]
    by_cases hgt : start - 1 > 0
    · simp only [hgt, if_true]
      have hp := pb_step start size orphan overlap s (by omega) h2 hs ho hov hlt
      obtain ⟨i1, i2, i3⟩ := ih _ hp.1 (Int.le_trans (Int.le_of_lt hp.2.1) h2) (by omega)
      -- the walk goes on from the previous window's start, which lies before `start`
      obtain ⟨l1, l2⟩ := linked_cons (R := fun a b => b < a) (f := id) (x := start) (congrArg _ i3) i2
        fun r _ (hr : r = _) => hr ▸ hp.2.1
      exact ⟨l1.trans i1, l2, rfl⟩
    · have : start = 1 := by omega
      simp [this, Linked]

/-- **The loops of the model are the loops of the source**: `GenCode.nextBatchesGen` / `prevBatchesGen` are regenerated on
every run from the `while` loops of `sequence_variables.next_batches` / `previous_batches` (the loop test, `current = …`,
the `opt(…)` call, the `break` test, the three fields stored for every listed batch); started from the variables the
prologue loads (`l_ = len(sequence)`), they compute the hand-written `Batch.nextBatches` / `Batch.prevBatchesRev`. -/
theorem gen_next_batches_is_model (sz orphan overlap : Int) (s : Seq) :
    ∀ (fuel : Nat) (start end_ cur spam : Int),
    GenCode.nextBatchesGen s fuel ⟨start, end_, sz, orphan, overlap, s.len, cur, spam⟩ =
      nextBatches sz orphan overlap s fuel end_ := by
  intro fuel
  induction fuel with
  | zero => intros; rfl
  | succ n ih =>
    intro start end_ cur spam
    simp only [GenCode.nextBatchesGen, nextBatches, gen_opt_is_model, ih]

theorem gen_previous_batches_is_model (sz orphan overlap : Int) (s : Seq) :
    ∀ (fuel : Nat) (start end_ l cur spam : Int),
    GenCode.prevBatchesGen s fuel ⟨start, end_, sz, orphan, overlap, l, cur, spam⟩ =
      prevBatchesRev sz orphan overlap s fuel start := by
  intro fuel
  induction fuel with
  | zero => intros; rfl
  | succ n ih =>
    intro start end_ l cur spam
    simp only [GenCode.prevBatchesGen, prevBatchesRev, gen_opt_is_model, ih]

/-- **The lists start from the window that is being displayed**: both methods load `sz`, `start`, `end`, `orphan`,
`overlap` from the `sequence-step-…` variables (which `renderwb` sets from the window it computed) and `next_batches`
takes `l_ = len(sequence)` — extracted from /repo's source on every run. -/
theorem gen_batch_list_inputs :
    GenCode.next_batches_inputs = [("sz", "sequence-step-size"), ("start", "sequence-step-start"),
      ("end", "sequence-step-end"), ("l_", "len(sequence)"), ("orphan", "sequence-step-orphan"),
      ("overlap", "sequence-step-overlap")] ∧
    GenCode.previous_batches_inputs = [("sz", "sequence-step-size"), ("start", "sequence-step-start"),
      ("end", "sequence-step-end"), ("orphan", "sequence-step-orphan"), ("overlap", "sequence-step-overlap")] :=
  ⟨rfl, rfl⟩

/-- **Listing terminates**, for every parameter tuple (also `overlap ≥ size`, negative numbers, lazy sequences): once the
fuel covers the distance to the end of the sequence, more fuel never changes the list — the `while` loop of the source
has stopped by then (every iteration moves `end` strictly towards `len`, or breaks). -/
theorem next_batches_fuel (sz orphan overlap : Int) (s : Seq) :
    ∀ (fuel : Nat) (end_ : Int), s.len - end_ ≤ fuel →
    nextBatches sz orphan overlap s (fuel + 1) end_ = nextBatches sz orphan overlap s fuel end_ := by
  intro fuel
  induction fuel with
  | zero => intro end_ h; simp [nextBatches, show ¬ end_ < s.len from by omega]
  | succ n ih =>
    intro end_ h
    rw [nextBatches, nextBatches.eq_2 _ _ _ _ end_ n]
    split
    · dsimp only
      split
      · rfl
      · rw [ih _ (by omega)]
    · rfl

theorem previous_batches_fuel (sz orphan overlap : Int) (s : Seq) :
    ∀ (fuel : Nat) (start : Int), start - 1 ≤ fuel →
    prevBatchesRev sz orphan overlap s (fuel + 1) start = prevBatchesRev sz orphan overlap s fuel start := by
  intro fuel
  induction fuel with
  | zero => intro start h; simp [prevBatchesRev, show ¬ start > 1 from by omega]
  | succ n ih =>
    intro start h
    rw [prevBatchesRev, prevBatchesRev.eq_2 _ _ _ _ start n]
    split
    · dsimp only
      split
      · rfl
      · rw [ih _ (by omega)]
    · rfl

/-- The first batch of `next-batches` is the batch the links announce (`next-sequence-start-number` /
`next-sequence-end-number`), the nearest batch of `previous-batches` the announced previous one. -/
theorem batch_lists_start_at_links (st e sz orphan overlap : Int) (s : Seq) (fuel : Nat)
    (h1 : 1 ≤ st) (h2 : st ≤ e) (h3 : e ≤ s.len) (hs : 1 ≤ sz) (ho : 0 ≤ orphan) (hov : 0 ≤ overlap)
    (hlt : overlap < sz) (hw : e = s.len ∨ st + sz - 1 ≤ e) :
    let l := links st e sz orphan overlap s
    (e < s.len → (nextBatches sz orphan overlap s (fuel + 1) e).head? =
        some (l.nextStart - 1, l.nextEnd - 1, l.nextEnd + 1 - l.nextStart)) ∧
    (1 < st → (prevBatchesRev sz orphan overlap s (fuel + 1) st).head? =
        some (l.prevStart - 1, l.prevEnd - 1, l.prevEnd + 1 - l.prevStart)) := by
  simp only [links, nextBatches, prevBatchesRev]
  constructor
  · intro he
    rw [if_pos he, if_neg (Int.not_le.mpr (nb_step e sz orphan overlap s (Int.le_trans h1 h2) he hs ho hov hlt (by omega)).2.1)]
    rfl
  · intro hst
    rw [if_pos hst, if_neg (Int.not_le.mpr (pb_step st sz orphan overlap s hst (Int.le_trans h2 h3) hs ho hov hlt).2.1)]
    rfl

/-- **`next-batches` tiles the rest of the sequence.**  For `0 ≤ overlap < size`, read on a displayed window ending at
`e`: the listed batches start `overlap` elements before `e`'s successor, each next one starts exactly `overlap` elements
before the end of the one before it, ends strictly move forward, the last one ends with the last element, every listed
batch lies inside the sequence with `batch-size = end − start + 1`; nothing is listed when the window already ends the
sequence.  (0-based indexes, as `batch-start-index` / `batch-end-index` are.) -/
theorem next_batches_tile (sz orphan overlap : Int) (s : Seq) (fuel : Nat) (e : Int)
    (hs : 1 ≤ sz) (ho : 0 ≤ orphan) (hov : 0 ≤ overlap) (hlt : overlap < sz)
    (h1 : 1 ≤ e) (hoe : overlap < e) (h3 : e ≤ s.len) (hf : s.len - e ≤ fuel) :
    let bs := nextBatches sz orphan overlap s fuel e
    (e < s.len → bs.head?.map (·.1) = some (e - overlap)) ∧
    (e < s.len → bs.getLast?.map (·.2.1) = some (s.len - 1)) ∧
    (e = s.len → bs = []) ∧
    Linked (fun a b => b.1 = a.2.1 + 1 - overlap ∧ a.2.1 < b.2.1) bs ∧
    (∀ b ∈ bs, 0 ≤ b.1 ∧ b.1 ≤ b.2.1 ∧ b.2.1 ≤ s.len - 1 ∧ e - overlap ≤ b.1 ∧ e ≤ b.2.1 ∧ b.2.2 = b.2.1 - b.1 + 1) := by
  induction fuel generalizing e with
  | zero =>
    have : e = s.len := by omega
    simp [nextBatches, Linked, this]
  | succ n ih =>
    simp only [nextBatches]
    by_cases he : e < s.len
    · have hst := nb_step e sz orphan overlap s h1 he hs ho hov hlt hoe
      simp only [he, if_true]
      generalize opt (e + 1 - overlap) 0 sz orphan s = o at hst ⊢
      obtain ⟨o1, o2, o3⟩ := hst
      rw [if_neg (Int.not_le.mpr o2)]
      obtain ⟨i1, i2, i3, i4, i5⟩ := ih o.2.1 (Int.le_trans h1 (Int.le_of_lt o2)) (Int.lt_trans hoe o2) o3 (by omega)
      -- the list goes on after the new batch exactly when that batch does not end the sequence
      obtain ⟨l1, l2⟩ := linked_cons_if (A := o.2.1 < s.len) (x := (o.1 - 1, o.2.1 - 1, o.2.1 + 1 - o.1)) i1 i2
        (fun h => i3 (by omega)) (fun h => by simp only; omega) i4 fun r hr hr1 => by
          have := i5 r hr
          simp only
          omega
      refine ⟨fun _ => by simp [o1]; omega, fun _ => l1, fun h => by omega, l2, ?_⟩
      refine List.forall_mem_cons.mpr ⟨by simp only; omega, fun b hb => ?_⟩
      obtain ⟨b1, b2, b3, b4, b5, b6⟩ := i5 b hb
      exact ⟨b1, b2, b3, by omega, by omega, b6⟩
    · have : e = s.len := by omega
      simp [Linked, this]

/-- **`previous-batches` tiles the beginning of the sequence.**  For `0 ≤ overlap < size`, read on a displayed window
starting at `st`: going backwards, the nearest batch ends `overlap` elements after `st`'s predecessor (clamped to the
sequence), each further one ends exactly `overlap` elements after the predecessor of the start of the one after it,
starts strictly move backwards, the farthest one starts with the first element, every listed batch lies inside the
sequence; nothing is listed for a window that starts the sequence.  (`Batch.prevBatches` is this list reversed, the order
the variable has.) -/
theorem previous_batches_tile (sz orphan overlap : Int) (s : Seq) (fuel : Nat) (st : Int)
    (hs : 1 ≤ sz) (ho : 0 ≤ orphan) (hov : 0 ≤ overlap) (hlt : overlap < sz)
    (h1 : 1 ≤ st) (h2 : st ≤ s.len) (hf : st - 1 ≤ fuel) :
    let bs := prevBatchesRev sz orphan overlap s fuel st
    (1 < st → bs.head?.map (·.2.1) = some (min s.len (st - 1 + overlap) - 1)) ∧
    (1 < st → bs.getLast?.map (·.1) = some 0) ∧
    (st = 1 → bs = []) ∧
    Linked (fun a b => b.2.1 = min s.len (a.1 + overlap) - 1 ∧ b.1 < a.1) bs ∧
    (∀ b ∈ bs, 0 ≤ b.1 ∧ b.1 ≤ b.2.1 ∧ b.2.1 ≤ s.len - 1 ∧ b.1 < st - 1 ∧ b.2.2 = b.2.1 - b.1 + 1) := by
  induction fuel generalizing st with
  | zero =>
    have : st = 1 := by omega
    simp [prevBatchesRev, Linked, this]
  | succ n ih =>
    simp only [prevBatchesRev]
    by_cases hst : st > 1
    · have hp := pb_step st sz orphan overlap s hst h2 hs ho hov hlt
      simp only [hst, if_true]
      generalize opt 0 (st - 1 + overlap) sz orphan s = o at hp ⊢
      obtain ⟨p1, p2, p3, p4⟩ := hp
      rw [if_neg (Int.not_le.mpr p2)]
      obtain ⟨i1, i2, i3, i4, i5⟩ := ih o.1 p1 (Int.le_trans (Int.le_of_lt p2) h2) (by omega)
      -- the list goes on before the new batch exactly when that batch does not begin the sequence
      obtain ⟨l1, l2⟩ := linked_cons_if (A := 1 < o.1) (x := (o.1 - 1, o.2.1 - 1, o.2.1 + 1 - o.1)) i1 i2
        (fun h => i3 (by omega)) (fun h => by simp only; omega) i4 fun r hr hr1 => by
          have := i5 r hr
          simp only
          omega
      refine ⟨fun _ => by simp [p4], fun _ => l1, fun h => by omega, l2, ?_⟩
      refine List.forall_mem_cons.mpr ⟨by simp only; omega, fun b hb => ?_⟩
      obtain ⟨b1, b2, b3, b4, b5⟩ := i5 b hb
      exact ⟨b1, b2, b3, by omega, b5⟩
    · have : st = 1 := by omega
      simp [Linked, this]

/-- `overlap ≥ size`: the batches do not move, so none is listed. -/
theorem batch_lists_stuck_overlap :
    nextBatches 2 0 2 ⟨9, false⟩ 20 3 = [] ∧ prevBatchesRev 2 0 2 ⟨9, false⟩ 20 5 = [] := by decide

/-- Non-vacuity: 10 elements, size 3, overlap 1, orphan 1, the window 4..6 being displayed. -/
example : nextBatches 3 1 1 ⟨10, false⟩ 10 6 = [(5, 7, 3), (7, 9, 3)] := by decide
example : prevBatches 3 1 1 ⟨10, false⟩ 10 4 = [(0, 1, 2), (1, 3, 3)] := by decide

/-- Non-vacuity: a concrete batch run (7 elements, size 3, overlap 1, orphan 1). -/
example : follow 3 1 1 ⟨7, false⟩ 7 1 = [(1, 3), (3, 5), (5, 7)] := by decide
example : followPrev 3 1 1 ⟨7, false⟩ 7 5 = [5, 3, 1] := by decide
example : window 1 9 0 0 ⟨7, false⟩ = (1, 7, 9) := by decide

/-! ### The prologue of `renderwb` and `int_param` are those of the source

`GenIn.intParamGen`, `inBatchParamCalls`, `inBatchWindowGen`, `inBatchWinGen`, `inBatchVarsGen`, `inBatchModeGen`,
`inBatchFirstGen` / `inBatchSecondGen` are regenerated on every run (harness/trans_in.py, `generate_window`) from `int_param`
and from the statements of `InClass.renderwb` before the loop: `int_param` statement by statement (the `try: v = params[name]
except: v = default`, `if v:`, `try: v = int(v) except Exception:`, `v = md[v]`, `if type(v) is st: v = int(v)`, `return v`), the
five `int_param(params, md, KEY, DEFAULT)` calls in their order with the handler around the first, the arguments of
`opt(…)`, the clamp `try: sequence[end - 1] except IndexError: end = len(sequence)`, the bounds of `range(first, end)`, the seven
`pkw['sequence-step-…'] = …` stores, `if previous: … elif next: …` with the flags `'previous' in params` / `'next' in params`, the
tests `first > 0` / `try: sequence[end]`, the two `opt(…)` calls and the stores of the two branches. -/
section GenPrologue
open DTML.Render DTML.GenIn DTML.Lemmas.InBatchGen

/-- a parameter given as a numeral is that number -/
theorem gen_int_param_literal (env : Env) (fuel : Nat) (params : Text → Option Param) (name : Text) (d : Val) (st : St) (i : Int)
    (h : params name = some (.lit i)) : intParamGen env fuel params name d st = (.ok (.int i), st) :=
  int_param_lit env fuel params name d st i h

/-- the calls of `renderwb`: the five parameters in the order in which the model resolves them (`InXOpts.names`: start, end,
size, overlap, orphan), the defaults `0` … `'0'`, `except Exception: start = 1` around the first only -/
theorem gen_in_param_calls :
    inBatchParamCalls = [("start", .int 0, some 1), ("end", .int 0, none), ("size", .int 0, none), ("overlap", .int 0, none),
      ("orphan", .str "0".toList, none)] := rfl

/-- a parameter that is not given reads as 0 (`BatchP`'s "0 = not given") with the default of every call -/
theorem gen_int_param_default (env : Env) (fuel : Nat) (params : Text → Option Param) (st : St)
    (c : String × Val × Option Int) (hc : c ∈ inBatchParamCalls) (h : params c.1.toList = none) :
    intParamGen env fuel params c.1.toList c.2.1 st = (.ok (.int 0), st) :=
  int_param_absent env fuel params _ _ st h (params_calls_ok.2.1 c hc)

/-- a parameter given by the name of a variable: the model's `getitem` and `paramInt` (a string is converted, a failed
conversion raises, anything that is not a string is handed on as it is) -/
theorem gen_int_param_name_is_model (env : Env) (fuel : Nat) (params : Text → Option Param) (name n : Text) (d : Val) (st : St)
    (h : params name = some (.name n)) (hn : n ≠ []) :
    intParamGen env fuel params name d st =
      match getitem env fuel n true st with
      | (.ok v, st') =>
        (match paramInt v with
         | .ok i => (.ok (match v with | .str _ => .int i | v => v), st')
         | .bad => (.ok v, st')
         | .valueError => (.raise intError, st'))
      | (.raise e, st') => (.raise e, st')
      | (.ret v, st') => (.ret v, st')
      | (.oom, st') => (.oom, st') :=
  int_param_name env fuel params name n d st h hn

/-- **one step of the model's `resolveNames` is the translated `int_param`**: the value `opt()` can compute with (an int, a
bool) is stored in the parameters, anything else sets the TypeError flag, an exception propagates - except for `start`,
where it is swallowed and 1 taken (`inBatchParamCalls`: the handler around the first call) -/
theorem gen_int_param_is_model (env : Env) (fuel : Nat) (params : Text → Option Param) (p n : Text) (d : Val)
    (rest : List (Text × Text)) (bp : BatchP) (bad : Bool) (st : St)
    (h : params p = some (.name n)) (hn : n ≠ []) :
    resolveNames env (fuel + 1) ((p, n) :: rest) bp bad st =
      match intParamGen env fuel params p d st with
      | (.ok v, st') =>
        (match valPInt v with
         | some i => resolveNames env fuel rest (setParam bp p i) bad st'
         | none => resolveNames env fuel rest bp true st')
      | (.raise e, st') =>
        if p == "start".toList then resolveNames env fuel rest (setParam bp p 1) bad st' else (.raise e, st')
      | (.ret v, st') =>
        if p == "start".toList then resolveNames env fuel rest (setParam bp p 1) bad st' else (.ret v, st')
      | (.oom, st') => (.oom, st') :=
  resolve_step env fuel params p n d rest bp bad st h hn

/-- the hypotheses are satisfiable -/
example : ∃ (params : Text → Option Param) (n : Text), params "size".toList = some (.name n) ∧ n ≠ [] :=
  ⟨fun _ => some (.name "n".toList), "n".toList, rfl, by decide⟩

/-- **the five calls composed are one whole run of the model's `resolveNames`**: the translated `int_param` calls of
`renderwb`, run one after the other in the order of the source (`paramsRun` over `inBatchParamCalls`: a value `opt()` can
compute with is stored, anything else sets the TypeError flag, an exception propagates except under the handler of
`start`), are `resolveNames env fuel names bp0 bad st` - the call `renderBlk` makes for `.inx_` with `names = x.names`,
`bp0 = x.batch`, `bad = false` - where `names` are the parameters given by the name of a variable, in the order of the
source (`gen_in_params_names`), and `bp0` holds the numerals, 0 for a parameter that is not given (`litFill`).  The fuel
is the same on both sides and threads as follows: a parameter given by name costs one unit (its lookup `md[v]` runs with
what is left after paying), a numeral or an absent parameter costs nothing, each call hands what it has left to the
next, and one unit must be left after the last call (`paramsRun`; with less: out of fuel on both sides) -/
theorem gen_in_params_is_resolveNames (env : Env) (params : Text → Option Param)
    (hn : ∀ c ∈ inBatchParamCalls, ∀ n, params c.1.toList = some (.name n) → n ≠ [])
    (fuel : Nat) (bp : BatchP) (bad : Bool) (st : St) :
    paramsRun env params inBatchParamCalls fuel bp bad st =
      resolveNames env fuel (namesOf params inBatchParamCalls) (litFill params inBatchParamCalls bp) bad st :=
  params_run env params inBatchParamCalls params_calls_ok.1 params_calls_ok.2.1 params_calls_ok.2.2 hn fuel bp bad st

/-- the list the model resolves is in the order of the source: start, end, size, overlap, orphan, those given by name
(the order `InXOpts.names` documents: no permutation between the source and the model) -/
theorem gen_in_params_names (params : Text → Option Param) :
    namesOf params inBatchParamCalls =
      ["start", "end", "size", "overlap", "orphan"].filterMap (fun k =>
        match params k.toList with
        | some (.name n) => some (k.toList, n)
        | _ => none) :=
  namesOf_eq_filterMap params inBatchParamCalls

/-- with nothing given by name the calls store the numerals and use no fuel beyond the one unit at the end -/
theorem gen_in_params_literals (env : Env) (params : Text → Option Param)
    (h : ∀ c ∈ inBatchParamCalls, ∀ n, params c.1.toList ≠ some (.name n)) (fuel : Nat) (bp : BatchP) (st : St) :
    paramsRun env params inBatchParamCalls (fuel + 1) bp false st = (.ok (litFill params inBatchParamCalls bp, false), st) := by
  rw [gen_in_params_is_resolveNames env params (fun c hc n hq => absurd hq (h c hc n))]
  have hnil : namesOf params inBatchParamCalls = [] := by
    rw [namesOf_eq_filterMap]
    refine List.filterMap_eq_nil_iff.mpr fun k hk => ?_
    obtain ⟨c, hc, rfl⟩ := List.mem_map.mp hk
    cases hq : params c.1.toList with
    | none => rfl
    | some q =>
      cases q with
      | lit k => rfl
      | name n => exact absurd hq (h c hc n)
  rw [hnil]
  rfl

/-- the hypothesis of `gen_in_params_is_resolveNames` is satisfiable with parameters of every kind -/
example : ∃ params : Text → Option Param,
    (∀ c ∈ inBatchParamCalls, ∀ n, params c.1.toList = some (.name n) → n ≠ []) ∧
    params "start".toList = some (.name "s".toList) ∧ params "size".toList = some (.lit 3) ∧ params "end".toList = none :=
  ⟨fun p => if p = "start".toList then some (.name "s".toList) else if p = "size".toList then some (.lit 3) else none,
    fun c _ n hq => (by
      -- only `start` is given by a name, and that name is not empty
      dsimp only at hq
      split at hq
      · cases hq
        decide
      · split at hq <;> cases hq),
    rfl, rfl, rfl⟩

/-- **the window**: `opt(start, end, size, orphan, sequence)` with the arguments in the order of the source, then the
clamp of `end`, is `Batch.window` -/
theorem gen_in_window_is_model (start end_ size overlap orphan : Int) (s : Seq) :
    inBatchWindowGen start end_ size overlap orphan s = window start end_ size orphan s := by
  simp only [inBatchWindowGen, gen_opt_is_model, window]

/-- `range(first, end)` and the parameters the loop reads are the model's `bwinOf` -/
theorem gen_in_bwin_is_model (bp : BatchP) (len : Nat) :
    let w := inBatchWindowGen bp.start bp.end_ bp.size bp.overlap bp.orphan ⟨len, false⟩
    inBatchWinGen bp.start bp.end_ bp.size bp.overlap bp.orphan w.1 w.2.1 w.2.2 = bwinOf bp len := by
  simp only [gen_in_window_is_model, inBatchWinGen, bwinOf]

/-- the `sequence-step-*` stores before anything is rendered are the model's `batchInit` (on the dictionary
`sequence_variables` starts with: previous-sequence = next-sequence = 0) -/
theorem gen_in_batch_vars_is_model (bp : BatchP) (len : Nat) (sv : SeqVars) (hl : 1 ≤ len) (ho : 0 ≤ bp.orphan) :
    let w := inBatchWindowGen bp.start bp.end_ bp.size bp.overlap bp.orphan ⟨len, false⟩
    inBatchVarsGen ((sv.set (txt "previous-sequence") (.int 0)).set (txt "next-sequence") (.int 0))
      bp.start bp.end_ bp.size bp.overlap bp.orphan w.1 w.2.1 w.2.2 = batchInit sv (bwinOf bp len) := by
  have h := opt_window bp.start bp.end_ bp.size bp.orphan ⟨len, false⟩ (by show (1 : Int) ≤ (len : Int); omega) ho
  simp only [gen_in_window_is_model, inBatchVarsGen, batchInit, bwinOf]
  generalize window bp.start bp.end_ bp.size bp.orphan ⟨len, false⟩ = w at h ⊢
  have e1 : (((w.1 - 1).toNat : Nat) : Int) = w.1 - 1 := by omega
  have e2 : ((w.2.1.toNat : Nat) : Int) = w.2.1 := by omega
  simp only [Int.ofNat_eq_natCast, e1, e2, Int.sub_add_cancel]

/-- the hypotheses are satisfiable -/
example : (1 : Nat) ≤ 5 ∧ (0 : Int) ≤ ({ start := 2, size := 2 } : BatchP).orphan := by decide

/-- `if previous: … elif next: … else:` - `previous` wins, the flags are the presence of the attributes -/
theorem gen_in_mode_is_model (has : Text → Bool) :
    inBatchModeGen has = if has (txt "previous") then (0, txt "previous") else if has (txt "next") then (1, txt "next")
      else (2, []) := rfl

/-- **the `previous` rendering**: the section when `first > 0`, with the previous batch `opt(0, first + overlap, sz, orphan)`
stored as the model's `prevInfo`; the else section otherwise -/
theorem gen_in_previous_is_model (sv : SeqVars) (w : BWin) :
    inBatchFirstGen sv w = if w.first > 0 then some (prevInfo sv w true) else none := by
  have e3 : ((w.first : Int) > 0) ↔ w.first > 0 := by omega
  simp only [inBatchFirstGen, inBatchFirstVarsGen, prevInfo, e3, if_true]

/-- **the `next` rendering**: the section when `sequence[end]` exists, with the next batch `opt(end + 1 - overlap, 0, sz,
orphan)` stored as the model's `nextInfo`; the else section otherwise -/
theorem gen_in_next_is_model (sv : SeqVars) (w : BWin) :
    inBatchSecondGen sv w = if moreAfter sv w then some (nextInfo sv w true) else none := by
  simp only [inBatchSecondGen, inBatchSecondVarsGen, nextInfo, seqHas_stop, if_true]

/-- in the interpreter a `previous` tag is rendered as the first branch of the source says -/
theorem gen_in_previous_is_inBatch (env : Env) (fuel : Nat) (sv0 : SeqVars) (o : InOpts) (bp : BatchP) (w : BWin)
    (body : List Blk) (els : Option (List Blk)) (cache : List Frame) (st : St) (hp : bp.previous = true) :
    inBatch env (fuel + 1) sv0 o bp w body els cache st =
      popFrames (cache.length + 1) (singleRender env fuel body els cache { sv0 with noIndex := true }
        (inBatchFirstGen { sv0 with noIndex := true } w) st) := by
  unfold inBatch
  rw [gen_in_previous_is_model]
  simp only [hp, if_true, popFrames, singleRender]
  by_cases h : w.first > 0
  · simp only [h, if_true]
  · simp only [h, if_false]
    cases els <;> rfl

/-- in the interpreter a `next` tag (without `previous`) is rendered as the second branch of the source says -/
theorem gen_in_next_is_inBatch (env : Env) (fuel : Nat) (sv0 : SeqVars) (o : InOpts) (bp : BatchP) (w : BWin)
    (body : List Blk) (els : Option (List Blk)) (cache : List Frame) (st : St) (hp : bp.previous = false) (hn : bp.next = true) :
    inBatch env (fuel + 1) sv0 o bp w body els cache st =
      popFrames (cache.length + 1) (singleRender env fuel body els cache { sv0 with noIndex := true }
        (inBatchSecondGen { sv0 with noIndex := true } w) st) := by
  unfold inBatch
  rw [gen_in_next_is_model]
  have hm : moreAfter { sv0 with noIndex := true } w = moreAfter sv0 w := rfl
  simp only [hp, hn, if_true, popFrames, singleRender, hm, Bool.false_eq_true, if_false]
  by_cases h : moreAfter sv0 w = true
  · simp only [h, if_true]
  · simp only [h]
    cases els <;> rfl

/-- **the branches announce the neighbours of `Batch.links`**: the section of a `previous` tag is rendered exactly when
`links.prevFlag`, that of a `next` tag exactly when `links.nextFlag`, and the numbers stored are `links`' -/
theorem gen_in_single_is_links (sv : SeqVars) (w : BWin) :
    let l := links ((w.first : Int) + 1) w.stop w.sz w.orphan w.overlap ⟨sv.items.length, false⟩
    ((inBatchFirstGen sv w).isSome = l.prevFlag) ∧ ((inBatchSecondGen sv w).isSome = l.nextFlag) ∧
    inBatchFirstVarsGen sv w = (((sv.set (txt "previous-sequence") (.int 1)).set (txt "previous-sequence-start-index")
      (.int (l.prevStart - 1))).set (txt "previous-sequence-end-index") (.int (l.prevEnd - 1))).set
      (txt "previous-sequence-size") (.int (l.prevEnd + 1 - l.prevStart)) ∧
    inBatchSecondVarsGen sv w = (((sv.set (txt "next-sequence") (.int 1)).set (txt "next-sequence-start-index")
      (.int (l.nextStart - 1))).set (txt "next-sequence-end-index") (.int (l.nextEnd - 1))).set
      (txt "next-sequence-size") (.int (l.nextEnd + 1 - l.nextStart)) := by
  have e0 : (w.first : Int) + 1 - 1 = (w.first : Int) := by omega
  refine ⟨?_, ?_, ?_, ?_⟩
  · rw [gen_in_previous_is_model]
    by_cases h : w.first > 0 <;> simp [links, h, e0]
  · rw [gen_in_next_is_model]
    by_cases h : w.stop < sv.items.length <;> simp [links, moreAfter, probe, h]
  · simp only [inBatchFirstVarsGen, links, e0]
  · simp only [inBatchSecondVarsGen, links]

end GenPrologue

end DTML.Props.C11
