/-
C19 — Bytes in mixed output decode with the template encoding; str() is safe.
Model: DTML/Render.lean (`Piece`, `joinPieces` = render_blocks' 0 / 1 / n rule, `joinUnicode`
= join_unicode, `decodeBytes` with the template encoding (UTF-8 or Latin-1), `htmlQuote` on
bytes, `pieceOfVal`, `ustr`).
Two sections follow the theorems about the model, each with the obligations on the source as translated on every run:
`section Join` - `join_unicode` and the tail of `render_blocks` (GenJoin, harness/trans_join.py; with Lemmas/Join);
`section Ustr` - `ustr` and `_exception_str` (GenUstr, harness/trans_ustr.py; with Lemmas/Ustr), also on the kinds of value
the model leaves out.
-/
import DTML.Render
import DTML.Lemmas.Join
import DTML.Lemmas.Ustr
namespace DTML.Props.C19
open DTML.Render

/-- `s.encode('utf-8')` as a list of byte values -/
def utf8Bytes (s : Text) : List Nat := (String.ofList s).toByteArray.data.toList.map UInt8.toNat

/-- `s.encode('latin-1')` (defined for texts whose characters are below U+0100) -/
def latin1Bytes (s : Text) : List Nat := s.map Char.toNat

private theorem fromUTF8_toByteArray (s : String) : String.fromUTF8? s.toByteArray = some s := by
  unfold String.fromUTF8?
  rw [dif_pos s.isValidUTF8]
  congr 1

/-- for every text: any length, any code points -/
theorem utf8_roundtrip (env : Env) (h : env.utf8 = true) (s : Text) : decodeBytes env (utf8Bytes s) = some s := by
  have hb : ByteArray.mk ((utf8Bytes s).map UInt8.ofNat).toArray = (String.ofList s).toByteArray := by
    simp [utf8Bytes, List.map_map, Function.comp_def]
  rw [decodeBytes, if_pos h, hb, fromUTF8_toByteArray]
  simp

theorem latin1_roundtrip (env : Env) (h : env.utf8 = false) (s : Text) :
    decodeBytes env (latin1Bytes s) = some s := by
  simp [decodeBytes, latin1Bytes, latin1Decode, h, List.map_map, Function.comp_def, Char.ofNat_toNat]

theorem latin1Bytes_are_bytes (s : Text) (hs : ∀ c ∈ s, c.toNat < 256) : ∀ b ∈ latin1Bytes s, b < 256 := by
  intro b hb
  simp only [latin1Bytes, List.mem_map] at hb
  obtain ⟨c, hc, rfl⟩ := hb
  exact hs c hc

def isText : Piece → Prop
  | .text _ => True
  | .bytes _ => False

/-- `join_unicode` always yields text (or fails to decode) -/
theorem join_is_text (env : Env) (ps : List Piece) (p : Piece) (h : joinUnicode env ps = .ok p) : isText p := by
  unfold joinUnicode at h
  split at h
  · cases h; trivial
  · cases h

theorem joinPieces_of_two_le {env : Env} {ps : List Piece} (hl : 2 ≤ ps.length) :
    joinPieces env ps = joinUnicode env ps :=
  match ps, hl with
  | _ :: _ :: _, _ => rfl

/-- **Whenever a rendering consists of more than one piece, the result is text** -/
theorem multi_piece_is_text (env : Env) (ps : List Piece) (p : Piece) (hl : 2 ≤ ps.length)
    (h : joinPieces env ps = .ok p) : isText p :=
  join_is_text env ps p (joinPieces_of_two_le hl ▸ h)

/-- A top-level call whose rendering has more than one piece returns text. -/
theorem toplevel_multi_piece_text (env : Env) (fuel : Nat) (t : Template) (c : CallArgs) (ps : List Piece) (st1 : St)
    (v : Val) (hl : 2 ≤ ps.length)
    (hr : renderBlocks env fuel t.blocks { stack := callStack t c, level := 1 } = (.ok ps, st1))
    (h : (topCall env fuel t c).1 = .ok v) : ∃ s, v = .str s := by
  simp only [topCall, hr, joinPieces_of_two_le hl, joinUnicode] at h
  cases hd : decodeAll env ps with
  | some s => rw [hd] at h; exact ⟨s, (Res.ok.inj h).symm⟩
  | none => rw [hd] at h; cases h

/-- a single piece is returned as it is (bytes stay bytes) -/
theorem single_piece_unchanged (env : Env) (p : Piece) : joinPieces env [p] = .ok p := rfl

/-- no piece gives the empty text -/
theorem no_piece_empty (env : Env) : joinPieces env [] = .ok (.text []) := rfl

/-- **Inserting `s.encode(encoding)` is equivalent to inserting `s`**, at any position of a
joined rendering: a bytes piece that decodes to `s` under the template encoding can be replaced
by the text piece `s` without changing the result -/
theorem decodeAll_bytes_equiv (env : Env) (b : List Nat) (s : Text) (hd : decodeBytes env b = some s) :
    ∀ (pre post : List Piece),
    decodeAll env (pre ++ .bytes b :: post) = decodeAll env (pre ++ .text s :: post) := by
  intro pre post
  have : decodeAll env (.bytes b :: post) = decodeAll env (.text s :: post) := by
    simp only [decodeAll, hd]
    cases decodeAll env post <;> rfl
  rw [Lemmas.Join.decodeAll_append, Lemmas.Join.decodeAll_append, this]

theorem join_bytes_equiv (env : Env) (b : List Nat) (s : Text) (hd : decodeBytes env b = some s)
    (pre post : List Piece) :
    joinUnicode env (pre ++ .bytes b :: post) = joinUnicode env (pre ++ .text s :: post) := by
  unfold joinUnicode
  rw [decodeAll_bytes_equiv env b s hd]

/-- the same through render_blocks' rule, as soon as there is a second piece -/
theorem render_bytes_equiv (env : Env) (b : List Nat) (s : Text) (hd : decodeBytes env b = some s)
    (pre post : List Piece) (h2 : 1 ≤ pre.length + post.length) :
    joinPieces env (pre ++ .bytes b :: post) = joinPieces env (pre ++ .text s :: post) := by
  have hl : ∀ x : Piece, 2 ≤ (pre ++ x :: post).length := by
    intro x
    simp only [List.length_append, List.length_cons]
    omega
  rw [joinPieces_of_two_le (hl _), joinPieces_of_two_le (hl _)]
  exact join_bytes_equiv env b s hd pre post

/-- `render_bytes_equiv` with the UTF-8 codec of the model -/
theorem utf8_bytes_equiv (env : Env) (h : env.utf8 = true) (s : Text) (pre post : List Piece)
    (h2 : 1 ≤ pre.length + post.length) :
    joinPieces env (pre ++ .bytes (utf8Bytes s) :: post) = joinPieces env (pre ++ .text s :: post) :=
  render_bytes_equiv env _ s (utf8_roundtrip env h s) pre post h2

/-- `render_bytes_equiv` with the Latin-1 codec of the model -/
theorem latin1_bytes_equiv (env : Env) (h : env.utf8 = false) (s : Text) (pre post : List Piece)
    (h2 : 1 ≤ pre.length + post.length) :
    joinPieces env (pre ++ .bytes (latin1Bytes s) :: post) = joinPieces env (pre ++ .text s :: post) :=
  render_bytes_equiv env _ s (latin1_roundtrip env h s) pre post h2

/-- text pieces are concatenated in order, nothing else -/
theorem join_texts (env : Env) (ss : List Text) :
    decodeAll env (ss.map Piece.text) = some ss.flatten := by
  induction ss with
  | nil => rfl
  | cons a t ih => simp [decodeAll, ih]

/-- **HTML-quoted insertion decodes with the template encoding too** -/
theorem html_quote_bytes_equiv (env : Env) (b : List Nat) (s : Text) (hd : decodeBytes env b = some s) :
    htmlQuote env (.bytes b) = htmlQuote env (.text s) := by
  simp only [htmlQuote, hd]

/-- dtml-in always joins its iterations with join_unicode: its result is text even for one piece -/
theorem in_body_is_text (env : Env) (ps : List Piece) (p : Piece) (h : joinUnicode env ps = .ok p) : isText p :=
  join_is_text env ps p h

/-- try/else and try/finally join their two parts with join_unicode -/
theorem try_join_is_text (env : Env) (p q : Piece) (st st' : St) (r : List Piece)
    (h : join2 env p q st = (.ok r, st')) : ∀ x ∈ r, isText x := by
  unfold join2 at h
  split at h
  next j hj =>
    obtain ⟨rfl, _⟩ := h
    intro x hx
    split at hx
    · cases hx
    · obtain rfl := List.mem_singleton.mp hx
      exact join_is_text env _ _ hj
  · cases h
  · cases h

/-- a bytes value is inserted as a bytes piece (decoded only when pieces are joined) -/
theorem piece_of_bytes (b : List Nat) : pieceOfVal (.bytes b) = .bytes b := rfl

/-- a string as the text it is (every other value as the text `ustr v`: the definition of `pieceOfVal`) -/
theorem piece_of_str (s : Text) : pieceOfVal (.str s) = .text s := rfl

/-- `ustr`: strings unchanged, exceptions as their message, numbers / None / booleans as Python prints them -/
theorem ustr_spec (s m c : Text) (i : Int) :
    ustr (.str s) = s ∧ ustr (.exc c m) = m ∧ ustr (.int i) = intRepr i ∧
    ustr .none = "None".toList ∧ ustr (.bool true) = "True".toList ∧ ustr (.bool false) = "False".toList :=
  ⟨rfl, rfl, rfl, rfl, rfl, rfl⟩

-- 'é' as UTF-8 bytes next to a text piece
example : decodeAll { utf8 := true } [.text "a".toList, .bytes [0xC3, 0xA9]] = some ['a', 'é'] := by
  decide +kernel
-- the same bytes in a Latin-1 template are two characters
example : decodeAll { utf8 := false } [.text "a".toList, .bytes [0xC3, 0xA9]] = some ['a', 'Ã', '©'] := by
  decide +kernel
-- invalid UTF-8 fails to decode
example : decodeAll { utf8 := true } [.text "a".toList, .bytes [0xE9]] = none := by
  decide +kernel

/-! #### `join_unicode` and `render_blocks` as translated from the source on every run (DTML/GenJoin.lean)

The generated definitions are proved equal to the model functions the theorems above are stated about, for every list of
pieces.  `encodingIs env encoding`: the `encoding` argument stands for the template encoding of the model (`None` =
Latin-1, the value of `OLD_DEFAULT_ENCODING` the generated code reads from the package). -/

section Join
open DTML.GenJoin DTML.Lemmas.Join

/-- `if encoding is None: encoding = _dt.OLD_DEFAULT_ENCODING` leaves a name that means the template encoding -/
theorem gen_join_unicode_default_encoding (env : Env) (encoding : Option Text) (h : encodingIs env encoding) :
    resolved env (if encoding = none then some OLD_DEFAULT_ENCODING else encoding) := by
  cases encoding with
  | none =>
    simp only [encodingIs] at h
    refine ⟨OLD_DEFAULT_ENCODING, by simp, ?_⟩
    rw [h]
    decide +kernel
  | some e => exact ⟨e, by simp, h⟩

/-- one round of `for i in range(len(rendered))`: the element at the index is decoded if it is bytes and stored back -/
theorem gen_join_unicode_loop_body (env : Env) (encoding : Option Text) (h : resolved env encoding) :
    BodySpec env (joinUnicodeLoopBody encoding) := by
  obtain ⟨e, rfl, hc⟩ := h
  intro pre x suf
  have hget : pyGetItem (pre ++ x :: suf) pre.length = .ok x := by simp [pyGetItem]
  have hset : ∀ y, pySetItem (pre ++ x :: suf) pre.length y = .ok (pre ++ y :: suf) := by
    intro y; simp [pySetItem]
  unfold joinUnicodeLoopBody
  cases x with
  | text s => simp only [hget, bindR, isBytes, Bool.false_eq_true, if_false, decodeOne]
  | bytes b =>
    simp only [hget, hset, bindR, isBytes, if_true, decodeOne, pyDecode, hc, decodeBytes_utf8]
    cases decodeBytes env b with
    | none => rfl
    | some s => rfl

/-- **`join_unicode` of the source is `joinUnicode` of the model** (every list of pieces, any length) -/
theorem gen_join_unicode_is_model (env : Env) (encoding : Option Text) (h : encodingIs env encoding)
    (rendered : List Piece) : joinUnicodeGen rendered encoding = joinUnicode env rendered := by
  unfold joinUnicodeGen
  cases ht : allText rendered with
  | some ts =>
    simp only [pyJoin, ht, tryExcept]
    exact (join_texts_is_model env rendered ts ht).symm
  | none =>
    have hm : excMatches ["UnicodeError".toList, "TypeError".toList] typeError = true := by decide +kernel
    simp only [pyJoin, ht, tryExcept, hm, if_true]
    exact fixup_then_join env _
      (gen_join_unicode_loop_body env _ (gen_join_unicode_default_encoding env encoding h)) rendered

/-- **`render_blocks` of the source, from the statement after the call of `render_blocks_` on, is `joinPieces`**: no piece
gives `''`, one piece is returned as it is, more are handed to `join_unicode` -/
theorem gen_render_blocks_is_model (env : Env) (encoding : Option Text) (h : encodingIs env encoding)
    (rendered : List Piece) : renderBlocksTailGen rendered encoding = joinPieces env rendered := by
  unfold renderBlocksTailGen
  match rendered with
  | [] => rfl
  | [p] => rfl
  | a :: b :: t => exact gen_join_unicode_is_model env encoding h _

/-- the whole of `render_blocks(blocks, md, encoding)` - the pieces `render_blocks_` collects (`renderBlocks`), then the
translated statements - is what a tag object returns in the model (`renderJoined`) -/
theorem gen_render_blocks_is_renderJoined (env : Env) (encoding : Option Text) (h : encodingIs env encoding)
    (fuel : Nat) (body : List Blk) (st : St) :
    renderJoined env (fuel + 1) body st =
      (match renderBlocks env fuel body st with
       | (.ok rendered, st1) => (renderBlocksTailGen rendered encoding, st1)
       | (.raise e, st1) => (.raise e, st1)
       | (.ret v, st1) => (.ret v, st1)
       | (.oom, st1) => (.oom, st1)) := by
  simp only [renderJoined]
  rcases renderBlocks env fuel body st with ⟨r, st1⟩
  cases r with
  | ok ps => simp only [joinRes_ok, gen_render_blocks_is_model env encoding h]
  | raise e => rfl
  | ret v => rfl
  | oom => rfl

-- the hypothesis is satisfiable: a UTF-8 template hands its encoding on, a Latin-1 template hands on its name or nothing
open DTML.Lemmas.Join in
example : encodingIs { utf8 := true } (some "utf-8".toList) ∧ encodingIs { utf8 := true } (some "UTF-8".toList) ∧
    encodingIs { utf8 := false } none ∧ encodingIs { utf8 := false } (some "latin-1".toList) ∧
    encodingIs { utf8 := false } (some "Latin-1".toList) := by decide +kernel
-- and it says something: the default is not UTF-8
open DTML.Lemmas.Join in
example : ¬ encodingIs { utf8 := true } none := by decide +kernel

end Join

/-! #### `ustr` and `_exception_str` as translated from the source on every run (DTML/GenUstr.lean)

The generated definitions work on `GenUstr.PyV`: the values of the model plus the kinds it leaves out (classes, exception
objects with any `args`, instances whose own `__str__` is an oracle `Lib.callStr`, objects whose `__str__` is None); the
built-in `str()` of what has no text form in the model is the oracle `Lib.str`.  On the values of the model the
translation is `pieceOfVal` / `ustr` (what `piece_of_*` and `ustr_spec` above are about); on every value it raises only
where `Lemmas.Ustr.Misbehaves` says the value's own `__str__` (or the oracle `str()`) does. -/

section Ustr
open DTML.GenUstr DTML.Lemmas.Ustr

/-- `_exception_str(exc)` of the source on exception objects: no args -> `''`, one -> `ustr` of it, several -> `str` of the
tuple; without an `args` attribute -> `str(exc)` -/
theorem gen_exception_str_args (lib : Lib) (u : PyV → Res PyV) (a b : PyV) (t : List PyV) (id : Nat) :
    exceptionStrGen lib u (.excObj []) = .ok (.val (.str [])) ∧
    exceptionStrGen lib u (.excObj [a]) = u a ∧
    exceptionStrGen lib u (.excObj (a :: b :: t)) = strRes (lib.str (.tup (a :: b :: t))) ∧
    exceptionStrGen lib u (.excBare id) = strRes (lib.str (.excBare id)) :=
  ⟨exceptionStr_nil lib u, exceptionStr_one lib u a, exceptionStr_many lib u a b t, exceptionStr_bare lib u id⟩

/-- **`_exception_str` of the source on an exception value of the model is its message** (given that `ustr` returns a
text as it is - `gen_ustr_is_model` below) -/
theorem gen_exception_str_is_model (lib : Lib) (u : PyV → Res PyV) (c m : Text)
    (hu : u (.val (.str m)) = .ok (.val (.str m))) :
    exceptionStrGen lib u (.val (.exc c m)) = .ok (.val (.str (ustr (.exc c m)))) := by
  simp [exceptionStrGen, pyHasattr, pyAttr, andThen, pyTruth, pyLen, pyIndex, hu, ustr]

/-- **`ustr` of the source is `pieceOfVal` / `ustr` of the model**, on every value of the model -/
theorem gen_ustr_is_model (lib : Lib) (fuel : Nat) (v : Val) :
    ustrGen lib (fuel + 2) (.val v) = .ok (ofPiece (pieceOfVal v)) := by
  rw [ustrGen_val]
  cases v <;> rfl

/-- `ustr` of the source on the kinds of value the model leaves out: a class -> the built-in `str`; an exception object,
with or without `args` -> `_exception_str` (its one argument converted with the fuel that is left); `__str__ = None` ->
the built-in `str` -/
theorem gen_ustr_other_kinds (lib : Lib) (fuel : Nat) (n : Text) (args : List PyV) (id : Nat) :
    ustrGen lib (fuel + 1) (.cls n) = strRes (lib.str (.cls n)) ∧
    ustrGen lib (fuel + 1) (.excObj args) = exceptionStrGen lib (ustrGen lib fuel) (.excObj args) ∧
    ustrGen lib (fuel + 1) (.excBare id) = exceptionStrGen lib (ustrGen lib fuel) (.excBare id) ∧
    ustrGen lib (fuel + 1) (.noStr id) = strRes (lib.str (.noStr id)) :=
  ⟨ustrGen_cls lib fuel n, ustrGen_excObj lib fuel args, ustrGen_excBare lib fuel id, ustrGen_noStr lib fuel id⟩

/-- `ustr` of the source on an instance with its own `__str__`: what that returns if it is str or bytes, else ValueError;
what it raises is passed on -/
theorem gen_ustr_own_str (lib : Lib) (fuel : Nat) (id : Nat) :
    ustrGen lib (fuel + 1) (.inst id) =
      (match lib.callStr id with
       | .ok r => if isStrOrBytes r then .ok r else .raise wrongType
       | .raise e => .raise e
       | .ret x => .ret x
       | .oom => .oom) := by
  rw [ustrGen]
  have h1 := pyIsinstance_false (v := PyV.inst id) fun c => by cases c <;> rfl
  have ga : pyGetattr (PyV.inst id) "__str__".toList none = some ⟨.inst id⟩ := if_pos rfl
  have pc : pyCall lib (some ⟨.inst id⟩) = lib.callStr id := rfl
  simp only [h1, ga, pc]
  cases lib.callStr id <;> rfl

/-- `ustr` of the source on a tuple: its `__str__` is called, which is the built-in `str` -/
theorem gen_ustr_tuple (lib : Lib) (fuel : Nat) (xs : List PyV) :
    ustrGen lib (fuel + 1) (.tup xs) = strRes (lib.str (.tup xs)) := by
  rw [ustrGen]
  have h1 := pyIsinstance_false (v := PyV.tup xs) fun c => by cases c <;> rfl
  have ga : pyGetattr (PyV.tup xs) "__str__".toList none = some ⟨.tup xs⟩ := if_pos rfl
  have pc : pyCall lib (some ⟨.tup xs⟩) = strRes (lib.str (.tup xs)) := rfl
  simp only [h1, ga, pc]
  cases hs : lib.str (.tup xs) <;> rfl

/-- **conversion raises only when the value's own `__str__` misbehaves** (the last clause of C19), over the translated
function, for every value, oracle and fuel: whenever `ustr` of the source raises `e`, `Misbehaves lib v e` says where it
comes from - in particular never on a value of the model -/
theorem gen_ustr_raises_only (lib : Lib) (fuel : Nat) : ∀ (v : PyV) (e : Exc),
    ustrGen lib fuel v = .raise e → Misbehaves lib v e := by
  induction fuel with
  | zero => intro v e h; simp [ustrGen] at h
  | succ fuel ih =>
    intro v e h
    cases v with
    | val w =>
      rw [ustrGen_val] at h
      split at h
      · cases ih _ _ h
      · cases h
    | cls n => rw [ustrGen_cls] at h; exact .cls n e (strRes_raise _ _ h)
    | noStr id => rw [ustrGen_noStr] at h; exact .none id e (strRes_raise _ _ h)
    | tup xs => rw [gen_ustr_tuple] at h; exact .tup xs e (strRes_raise _ _ h)
    | excBare id => rw [ustrGen_excBare, exceptionStr_bare] at h; exact .bare id e (strRes_raise _ _ h)
    | inst id =>
      rw [gen_ustr_own_str] at h
      split at h
      next r hc =>
        split at h
        next => cases h
        next hr =>
          obtain rfl : wrongType = e := Res.raise.inj h
          exact .wrong id r hc (Bool.eq_false_iff.mpr hr)
      next e' hc => cases h; exact .own id e hc
      next => cases h
      next => cases h
    | excObj args =>
      rw [ustrGen_excObj] at h
      rcases args with _ | ⟨a, _ | ⟨b, t⟩⟩
      · rw [exceptionStr_nil] at h; cases h
      · rw [exceptionStr_one] at h; exact .arg a e (ih a e h)
      · rw [exceptionStr_many] at h; exact .args a b t e (strRes_raise _ _ h)

/-- No value of the model makes the conversion raise, whatever the oracles and the fuel. -/
theorem gen_ustr_model_value_never_raises (lib : Lib) (fuel : Nat) (v : Val) (e : Exc) :
    ustrGen lib fuel (.val v) ≠ .raise e := fun h => by cases gen_ustr_raises_only lib fuel _ _ h

/-! the oracles can be such that the conversion raises (two of the ways `Misbehaves` lists), and such that it does not -/
open DTML.GenUstr DTML.Lemmas.Ustr in
example : ustrGen ⟨fun _ => .ok (.val (.int 3)), fun _ => .ok []⟩ 1 (.inst 0) = .raise wrongType := rfl
open DTML.GenUstr DTML.Lemmas.Ustr in
example : ustrGen ⟨fun _ => .raise ⟨"ZeroDivisionError".toList, []⟩, fun _ => .ok []⟩ 5 (.excObj [.excObj [.inst 0]]) =
    .raise ⟨"ZeroDivisionError".toList, []⟩ := rfl
open DTML.GenUstr DTML.Lemmas.Ustr in
example : ustrGen ⟨fun _ => .ok (.val (.bytes [104, 105])), fun _ => .ok []⟩ 5 (.excObj [.excObj [.inst 0]]) =
    .ok (.val (.bytes [104, 105])) := rfl
open DTML.GenUstr DTML.Lemmas.Ustr in
example : ustrGen ⟨fun _ => .oom, fun _ => .ok "(1, 2)".toList⟩ 1 (.excObj [.val (.int 1), .val (.int 2)]) =
    .ok (.val (.str "(1, 2)".toList)) := rfl
open DTML.GenUstr DTML.Lemmas.Ustr in
example : ustrGen ⟨fun _ => .oom, fun _ => .oom⟩ 1 (.excObj []) = .ok (.val (.str [])) := rfl

end Ustr

end DTML.Props.C19
