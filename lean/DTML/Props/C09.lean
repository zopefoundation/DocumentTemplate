/-
C09 — if/elif/else/unless render the first true branch, lazily and evaluating once.
Model: DTML/Render.lean (`condLoop` = the 'i' block of render_blocks_, inside its cache
frame; `Blk.cond`, `Blk.unless_`, `Blk.call` are the three tags compiled to it).

The theorems about the model hold for every program, namespace, fault plan and fuel (block equations: Lemmas/Interp;
that a lookup leaves the cache frame on top: Props/C08).
After the concrete chain, the tie to the source as translated on every run: the lookups (by Props/C02), the `'i'` block of
`render_blocks_` (GenRender; Lemmas/IBlock), on runs that do not end out of fuel (`notOom`), and `If.__init__` /
`Unless.__init__` (GenIfCompile) through the compile model of Lemmas/IfCompile, which is also shown to fail exactly when
the parser model's `Parse.checkBlock` does.
-/
import DTML.Render
import DTML.Props.C08
import DTML.Props.C02
import DTML.Lemmas.IBlock
import DTML.Lemmas.IfCompile
import DTML.Lemmas.Lookup
import DTML.Lemmas.Interp
namespace DTML.Props.C09
open DTML.Render

/-- `cache[n] = v` on the cache frame (the top frame of the namespace) -/
def setCache (n : Text) (v : Val) (st : St) : St :=
  match st.stack with
  | .dict kvs :: fs => { st with stack := .dict (kvs.filter (·.1 != n) ++ [(n, v)]) :: fs }
  | _ => st

theorem setCache_eq (n : Text) (v : Val) (st : St) : setCache n v st = bindTop n v st := rfl

/-- what evaluating ONE condition of a conditional does -/
inductive CondRes where
  /-- evaluated to `v` (an undefined name counts as `None`), leaving the namespace in state `st` -/
  | val (v : Val) (st : St)
  /-- the evaluation raised, hit a dtml-return, or ran out of fuel -/
  | stop (r : Res (List Piece)) (st : St)

/-- one evaluation of a condition: a name is looked up (calling callables) exactly once and the
value is stored in the cache frame; an expression is evaluated exactly once -/
def condEval (env : Env) (fuel : Nat) : Src → St → CondRes
  | .name n, st =>
    (match getitem env fuel n true st with
     | (.ok v, st') => .val v (setCache n v st')
     | (.raise e, st') =>
       if e.cls = "KeyError".toList && e.msg = n then .val .none st' else .stop (.raise e) st'
     | (.ret v, st') => .stop (.ret v) st'
     | (.oom, st') => .stop .oom st')
  | .expr e, st =>
    (match evalExpr env fuel e st with
     | (.ok v, st') => .val v st'
     | (.raise x, st') => .stop (.raise x) st'
     | (.ret v, st') => .stop (.ret v) st'
     | (.oom, st') => .stop .oom st')

/-- **The conditional's step rule.**  The first condition is evaluated once; if it is true its
body is rendered and NOTHING else of the chain is touched; if it is false the body is skipped
and the chain continues from the state that ONE evaluation left behind; an error ends the
conditional. -/
theorem condLoop_cons (env : Env) (fuel : Nat) (src : Src) (body : List Blk)
    (rest : List (Src × List Blk)) (els : Option (List Blk)) (st : St) :
    condLoop env (fuel + 1) ((src, body) :: rest) els st =
      match condEval env fuel src st with
      | .val v st' => if truthy v then renderBlocks env fuel body st' else condLoop env fuel rest els st'
      | .stop r st' => (r, st') := by
  cases src with
  | name n =>
    rw [condLoop_name, condEval]
    simp only [setCache_eq]
    rcases getitem env fuel n true st with ⟨_ | e | _ | _, st'⟩
    · rfl
    · dsimp only [always]; split <;> rfl
    · rfl
    · rfl
  | expr e =>
    rw [condLoop_expr, condEval]
    rcases evalExpr env fuel e st with ⟨_ | _ | _ | _, st'⟩ <;> rfl

theorem condLoop_nil (env : Env) (fuel : Nat) (els : Option (List Blk)) (st : St) :
    condLoop env (fuel + 1) [] els st =
      match els with
      | some b => renderBlocks env fuel b st
      | none => (.ok [], st) := by
  cases els <;> simp only [condLoop]

/-- **A true condition selects its body and nothing after it is evaluated**: the outcome (output,
trace of calls, final namespace) does not depend on the rest of the chain or the else body. -/
theorem true_selects_body (env : Env) (fuel : Nat) (src : Src) (body : List Blk)
    (rest : List (Src × List Blk)) (els : Option (List Blk)) (st st' : St) (v : Val)
    (h : condEval env fuel src st = .val v st') (ht : truthy v = true) :
    condLoop env (fuel + 1) ((src, body) :: rest) els st = renderBlocks env fuel body st' := by
  rw [condLoop_cons, h]
  exact if_pos ht

theorem later_conditions_not_evaluated (env : Env) (fuel : Nat) (src : Src) (body : List Blk)
    (rest rest' : List (Src × List Blk)) (els els' : Option (List Blk)) (st st' : St) (v : Val)
    (h : condEval env fuel src st = .val v st') (ht : truthy v = true) :
    condLoop env (fuel + 1) ((src, body) :: rest) els st =
    condLoop env (fuel + 1) ((src, body) :: rest') els' st := by
  rw [true_selects_body env fuel src body rest els st st' v h ht,
      true_selects_body env fuel src body rest' els' st st' v h ht]

/-- **A false condition skips its body** (whatever the body is) and the chain continues -/
theorem false_skips_body (env : Env) (fuel : Nat) (src : Src) (body : List Blk)
    (rest : List (Src × List Blk)) (els : Option (List Blk)) (st st' : St) (v : Val)
    (h : condEval env fuel src st = .val v st') (hf : truthy v = false) :
    condLoop env (fuel + 1) ((src, body) :: rest) els st = condLoop env fuel rest els st' := by
  rw [condLoop_cons, h]
  exact if_neg (Bool.eq_false_iff.mp hf)

/-- an error in a condition ends the conditional with that error; no body is rendered -/
theorem error_in_condition_propagates (env : Env) (fuel : Nat) (src : Src) (body : List Blk)
    (rest : List (Src × List Blk)) (els : Option (List Blk)) (st st' : St) (r : Res (List Piece))
    (h : condEval env fuel src st = .stop r st') :
    condLoop env (fuel + 1) ((src, body) :: rest) els st = (r, st') := by
  rw [condLoop_cons, h]

/-- the conditions of a prefix are evaluated in order, each once, and all come out false:
the fuel and state with which the chain continues -/
def runFalse (env : Env) : Nat → List (Src × List Blk) → St → Option (Nat × St)
  | f, [], st => some (f, st)
  | 0, _ :: _, _ => none
  | f + 1, (src, _) :: rest, st =>
    match condEval env f src st with
    | .val v st' => if truthy v then none else runFalse env f rest st'
    | .stop _ _ => none

theorem runFalse_skips (env : Env) : ∀ (pre : List (Src × List Blk)) (fuel : Nat) (st : St) (f' : Nat) (st' : St)
    (post : List (Src × List Blk)) (els : Option (List Blk)),
    runFalse env fuel pre st = some (f', st') →
    condLoop env fuel (pre ++ post) els st = condLoop env f' post els st' := by
  intro pre fuel st f' st' post els h
  fun_induction runFalse env fuel pre st with
  | case1 => cases h; rfl
  | case4 f src body rest st v s hc ht ih =>
    -- the one way on: a condition that came out false
    rw [List.cons_append, condLoop_cons, hc]
    simp only [ht]
    exact ih h
  | _ => cases h

/-- **First true branch**: when the conditions before the k-th all evaluate to false and the
k-th to true, the conditional renders exactly the k-th body, from the state those k
evaluations (one per condition) left; the bodies before it, the conditions and bodies after
it and the else body play no part. -/
theorem first_true_branch (env : Env) (pre post : List (Src × List Blk)) (src : Src) (body : List Blk)
    (els : Option (List Blk)) (fuel f' : Nat) (st st1 st2 : St) (v : Val)
    (hpre : runFalse env fuel pre st = some (f' + 1, st1))
    (hk : condEval env f' src st1 = .val v st2) (ht : truthy v = true) :
    condLoop env fuel (pre ++ (src, body) :: post) els st = renderBlocks env f' body st2 := by
  rw [runFalse_skips env pre fuel st (f' + 1) st1 _ els hpre]
  exact true_selects_body env f' src body post els st1 st2 v hk ht

/-- **No true condition**: the else body is rendered when there is one, otherwise nothing -/
theorem none_true_renders_else (env : Env) (cs : List (Src × List Blk)) (els : Option (List Blk))
    (fuel f' : Nat) (st st1 : St)
    (hall : runFalse env fuel cs st = some (f' + 1, st1)) :
    condLoop env fuel cs els st =
      match els with
      | some b => renderBlocks env f' b st1
      | none => (.ok [], st1) := by
  have := runFalse_skips env cs fuel st (f' + 1) st1 [] els hall
  rw [List.append_nil] at this
  rw [this, condLoop_nil]

/-- a value in the cache frame is returned without touching anything: no callable is called,
nothing below the cache frame is consulted, the namespace and trace are unchanged -/
theorem cache_hit (env : Env) (fuel : Nat) (n : Text) (v : Val) (kvs : List (Text × Val))
    (fs : List Frame) (st : St) (hs : st.stack = .dict kvs :: fs) (hv : kvs.lookup n = some v) :
    getitem env (fuel + 1) n false st = (.ok v, st) :=
  getitem_nocall env n fuel st (hs ▸ lookupStack_dict_hit env n st.trace fs hv)

/-- the same for a lookup from a tag (`md[n]`) when the cached value is not itself callable -/
theorem cache_hit_call (env : Env) (fuel : Nat) (n : Text) (v : Val) (kvs : List (Text × Val))
    (fs : List Frame) (st : St) (hs : st.stack = .dict kvs :: fs) (hv : kvs.lookup n = some v)
    (hnf : ∀ id r, v ≠ .fn id r) (hnt : ∀ id, v ≠ .tmpl id) :
    getitem env (fuel + 1) n true st = (.ok v, st) := by
  rw [getitem_succ, hs, lookupStack_dict_hit env n st.trace fs hv, ← hs]
  cases v with
  | fn id r => exact (hnf id r rfl).elim
  | tmpl id => exact (hnt id rfl).elim
  | _ => rfl

/-- the conditional runs inside its own cache frame: a dictionary on top of the namespace -/
def HasCache (st : St) : Prop := ∃ kvs fs, st.stack = .dict kvs :: fs

theorem getitem_keeps_cache (env : Env) (fuel : Nat) (n : Text) (call : Bool) (st : St) (h : HasCache st) :
    HasCache (getitem env fuel n call st).2 := by
  obtain ⟨kvs, fs, hs⟩ := h
  exact ⟨kvs, C08.Pres.top_dict ((C08.all_preserve env fuel).getitem n call st) hs⟩

/-- **A named condition is evaluated once and its value is reused, not recomputed**: after the
single evaluation of the named condition `n` (which may call a callable: one `call` event) the
cache frame maps `n` to the value obtained, so that every further reference to `n` — a later
`elif n`, `<dtml-var n>` in the chosen body — returns that same value with no further call,
no further event and no change to the namespace. -/
theorem named_condition_cached (env : Env) (fuel fuel' : Nat) (n : Text) (st st' : St) (v : Val)
    (hc : HasCache st) (h : condEval env fuel (.name n) st = .val v st')
    (hdef : ∃ s, getitem env fuel n true st = (.ok v, s)) :
    getitem env (fuel' + 1) n false st' = (.ok v, st') := by
  obtain ⟨s, hs⟩ := hdef
  have hcs : HasCache s := by
    have := getitem_keeps_cache env fuel n true st hc
    rwa [hs] at this
  simp only [condEval, hs] at h
  obtain ⟨_, rfl⟩ := h
  obtain ⟨kvs, fs, hst⟩ := hcs
  apply cache_hit env fuel' n v (kvs.filter (·.1 != n) ++ [(n, v)]) fs
  · simp [setCache, hst]
  · exact lookup_setKV_self kvs n v

/-- a second condition on the same name, and any reference in the body, is a cache hit: the
condition evaluates to the stored value and leaves state and trace exactly as they were
(`setCache` re-stores the same value) — provided the stored value is not itself a callable -/
theorem repeated_condition_no_event (env : Env) (fuel : Nat) (n : Text) (v : Val) (kvs : List (Text × Val))
    (fs : List Frame) (st : St) (hs : st.stack = .dict kvs :: fs) (hv : kvs.lookup n = some v)
    (hnf : ∀ id r, v ≠ .fn id r) (hnt : ∀ id, v ≠ .tmpl id) :
    ∃ st', condEval env (fuel + 1) (.name n) st = .val v st' ∧ st'.trace = st.trace ∧
      st'.calls = st.calls ∧ st'.level = st.level ∧ st'.stack.tail = st.stack.tail := by
  refine ⟨setCache n v st, ?_, ?_⟩
  · simp only [condEval, cache_hit_call env fuel n v kvs fs st hs hv hnf hnt]
  · simp only [setCache, hs, List.tail_cons, and_self]

/-- caching one name does not disturb the cached value of another -/
theorem cache_other_kept (n m : Text) (v w : Val) (kvs : List (Text × Val)) (fs : List Frame) (st : St)
    (hs : st.stack = .dict kvs :: fs) (hw : kvs.lookup m = some w) (hne : m ≠ n) :
    ∃ kvs', (setCache n v st).stack = .dict kvs' :: fs ∧ kvs'.lookup m = some w := by
  refine ⟨kvs.filter (·.1 != n) ++ [(n, v)], by simp [setCache, hs], ?_⟩
  exact (lookup_setKV_ne kvs n m v hne).trans hw

/-- **A name that is not defined counts as false** (and is not an error): the chain continues;
nothing was called and the namespace is untouched -/
theorem undefined_is_false (env : Env) (fuel : Nat) (n : Text) (st : St) (tr : List Event)
    (h : lookupStack env st.stack n st.trace = (.missing, tr)) :
    condEval env (fuel + 1) (.name n) st = .val .none { st with trace := tr } ∧ truthy .none = false := by
  refine ⟨?_, rfl⟩
  have hg := getitem_missing env n fuel true st h
  have hk : (decide ((keyError n).cls = "KeyError".toList) && decide ((keyError n).msg = n)) = true := by
    rw [Bool.and_eq_true]
    exact ⟨decide_eq_true rfl, decide_eq_true rfl⟩
  simp only [condEval, hg, hk, if_true]

theorem undefined_condition_skipped (env : Env) (fuel : Nat) (n : Text) (body : List Blk)
    (rest : List (Src × List Blk)) (els : Option (List Blk)) (st : St) (tr : List Event)
    (h : lookupStack env st.stack n st.trace = (.missing, tr)) :
    condLoop env (fuel + 2) ((.name n, body) :: rest) els st =
    condLoop env (fuel + 1) rest els { st with trace := tr } :=
  false_skips_body env (fuel + 1) (.name n) body rest els st _ .none
    (undefined_is_false env fuel n st tr h).1 rfl

/-- **One condition** (what dtml-if without elif, dtml-unless and dtml-call compile to): it is evaluated once; true renders the
body, false the else part -/
theorem condLoop_single (env : Env) (fuel : Nat) (src : Src) (body : List Blk) (els : Option (List Blk)) (st : St) :
    condLoop env (fuel + 2) [(src, body)] els st =
      match condEval env (fuel + 1) src st with
      | .val v st' =>
        if truthy v then renderBlocks env (fuel + 1) body st'
        else (match els with
          | some b => renderBlocks env fuel b st'
          | none => (.ok [], st'))
      | .stop r st' => (r, st') := by
  rw [condLoop_cons]
  cases condEval env (fuel + 1) src st with
  | stop r s => rfl
  | val v s => dsimp only; rw [condLoop_nil]

/-- the state a block tag leaves: the cache frame popped -/
def pop (r : Res (List Piece) × St) : Res (List Piece) × St := (r.1, { r.2 with stack := r.2.stack.drop 1 })

/-- **dtml-if with one condition**: body iff the condition is true -/
theorem if_renders_iff_true (env : Env) (fuel : Nat) (src : Src) (body : List Blk) (st st' : St) (v : Val)
    (h : condEval env (fuel + 1) src { st with stack := .dict [] :: st.stack } = .val v st') :
    renderBlk env (fuel + 3) (.cond [(src, body)] none) st =
      if truthy v then pop (renderBlocks env (fuel + 1) body st') else pop (.ok [], st') := by
  simp only [renderBlk_cond, condLoop_single, h]
  split <;> rfl

/-- **dtml-unless renders its body exactly when dtml-if would not** -/
theorem unless_renders_iff_false (env : Env) (fuel : Nat) (src : Src) (body : List Blk) (st st' : St) (v : Val)
    (h : condEval env (fuel + 1) src { st with stack := .dict [] :: st.stack } = .val v st') :
    renderBlk env (fuel + 3) (.unless_ src body) st =
      if truthy v then pop (.ok [], st') else pop (renderBlocks env fuel body st') := by
  simp only [renderBlk_unless, condLoop_single, h]
  split <;> rfl

/-- the two, side by side: for the same evaluation of the condition exactly one of
`<dtml-if c>B</dtml-if>` and `<dtml-unless c>B</dtml-unless>` renders B, the other renders nothing -/
theorem unless_is_not_if (env : Env) (fuel : Nat) (src : Src) (body : List Blk) (st st' : St) (v : Val)
    (h : condEval env (fuel + 1) src { st with stack := .dict [] :: st.stack } = .val v st') :
    (truthy v = true →
      renderBlk env (fuel + 3) (.cond [(src, body)] none) st = pop (renderBlocks env (fuel + 1) body st') ∧
      renderBlk env (fuel + 3) (.unless_ src body) st = pop (.ok [], st')) ∧
    (truthy v = false →
      renderBlk env (fuel + 3) (.cond [(src, body)] none) st = pop (.ok [], st') ∧
      renderBlk env (fuel + 3) (.unless_ src body) st = pop (renderBlocks env fuel body st')) := by
  have h1 := if_renders_iff_true env fuel src body st st' v h
  have h2 := unless_renders_iff_false env fuel src body st st' v h
  constructor
  · intro ht
    simp only [ht, if_true] at h1 h2
    exact ⟨h1, h2⟩
  · intro hf
    simp only [hf, Bool.false_eq_true, if_false] at h1 h2
    exact ⟨h1, h2⟩

/-- **dtml-call evaluates its argument exactly once and emits nothing**: the state afterwards is
the state ONE evaluation of the argument leaves (cache frame popped), the output is empty
whatever the value is -/
theorem call_once_no_output (env : Env) (fuel : Nat) (src : Src) (st st' : St) (v : Val)
    (h : condEval env (fuel + 1) src { st with stack := .dict [] :: st.stack } = .val v st') :
    renderBlk env (fuel + 3) (.call src) st = (.ok [], { st' with stack := st'.stack.drop 1 }) := by
  simp only [renderBlk_call, condLoop_single, h]
  split <;> rfl

theorem call_error_propagates (env : Env) (fuel : Nat) (src : Src) (st st' : St) (r : Res (List Piece))
    (h : condEval env (fuel + 1) src { st with stack := .dict [] :: st.stack } = .stop r st')
    (hr : ∀ ps, r ≠ .ok ps) :
    renderBlk env (fuel + 3) (.call src) st = (r, { st' with stack := st'.stack.drop 1 }) := by
  simp only [renderBlk_call, condLoop_single, h]
  cases r with
  | ok ps => exact absurd rfl (hr ps)
  | _ => rfl

/-! #### the hypotheses are satisfiable: a concrete chain -/

section Example
private def f1 : Val := .fn 1 (.int 0)     -- callable returning 0 (false)
private def f2 : Val := .fn 2 (.int 7)     -- callable returning 7 (true)
private def f3 : Val := .fn 3 (.int 1)
private def ns : List Frame := [.dict [("a".toList, f1), ("b".toList, f2), ("c".toList, f3)]]
private def chain : Blk :=
  .cond [(.name "a".toList, [.lit "A".toList]),
         (.name "undefined".toList, [.lit "U".toList]),
         (.name "b".toList, [.lit "B".toList, .var (.name "b".toList) false none none]),
         (.name "c".toList, [.lit "C".toList])] (some [.lit "E".toList])

/-- a (false), undefined, b (true, value reused in the body without a second call), c never called -/
example : ((renderBlk {} 50 chain { stack := ns }).2.trace = [.call 1, .call 2]) := by decide +kernel
private def okPieces : Res (List Piece) → Option (List Piece)
  | .ok ps => some ps
  | _ => none
example : okPieces (renderBlk {} 50 chain { stack := ns }).1 = some [.text "B".toList, .text "7".toList] := by
  decide +kernel
end Example

/-! ### The lookups the conditional rests on are the lookups of the source

A named condition is fetched with `md[name]`; the value is answered by the topmost frame that has it, an instance frame
asking its object once and then its cache.  Both functions are regenerated from the source on every run and proved equal
to the model in Props/C02; a change of `TemplateDict.getitem` or `InstanceDict.__getitem__` therefore leaves the theorems of
this file without their tie to the code, and this check reports it. -/
theorem gen_lookup_is_model (env : Env) (fuel : Nat) (key : Text) (call : Bool) (st : St) (v : Val)
    (cache : List (Text × Val)) (tr : List Event) :
    GenNs.getitemLoopGen env fuel key call st.stack [] st = getitem env (fuel + 1) key call st ∧
    GenNs.instGetitemGen env v cache key tr = frameGet env (.inst v cache) key tr :=
  ⟨C02.gen_templatedict_getitem_is_model env fuel key call st, C02.gen_instancedict_getitem_is_model env v cache key tr⟩

/-! ### The conditional of the model is the `'i'` block of the source

`GenRender.iBlockGen` is regenerated on every run by translating the `'i'` branch of `render_blocks_` in /repo
(harness/trans_render.py): `bs = len(block) - 1`, the cache pushed and popped in `try … finally`, `m = bs - 1`, the loop
`while icond < m` over the cells of the compiled tuple (`block[icond + 1]` the condition - `md[cond]` with the KeyError of
the condition's own name counting as false and the value stored in the cache, or `cond(md)` - `block[icond + 2]` the body,
`m = -1; break`, `icond += 2`), and `if icond == m:` the else part.  On the cells a conditional compiles to
(`encodeI`) it computes the model's `condLoop` inside its cache frame - what `renderBlk` does for `.cond` - for every run
that does not end in "out of fuel" (`notOom`; a run that ends otherwise ends the same way on more fuel: Lemmas/Fuel). -/
open GenRender in
/-- one pass of the loop of the source at a condition cell: the condition is evaluated once, then the body or the next cell -/
theorem iLoop_cond (env : Env) (cells : List ICell) (m : Int) (f i : Nat) (src : Src) (st : St)
    (hlt : (i : Int) < m) (hc : cells[i]? = some (.cond src)) :
    iLoopGen env cells m (f + 1) i st =
      match condEval env f src st with
      | .val v st' =>
        if truthy v then renderOpt env f (bodyAt cells (i + 1)) st' else iLoopGen env cells m f (i + 2) st'
      | .stop r st' => (r, st') := by
  rw [iLoopGen, if_pos hlt, hc]
  cases src with
  | name n =>
    simp only [condEval, setCache_eq, Lemmas.IBlock.cacheSet_eq]
    rcases getitem env f n true st with ⟨_ | e | _ | _, st'⟩
    · rfl
    · dsimp only; split <;> rfl
    · rfl
    · rfl
  | expr e =>
    simp only [condEval]
    rcases evalExpr env f e st with ⟨_ | _ | _ | _, st'⟩ <;> rfl

open GenRender Lemmas.IBlock in
/-- the loop of the source at cell `i`, when the cells from `i` on are those of the chain `rest`, is `condLoop` on `rest` -/
theorem iLoop_spec (env : Env) (els : Option (List Blk)) (cells : List ICell) :
    ∀ (fuel : Nat) (rest : List (Src × List Blk)) (i : Nat) (st : St),
    cells.drop i = encodeI rest els → notOom (condLoop env fuel rest els st).1 →
    iLoopGen env cells ((cells.length : Int) - 1) fuel i st = condLoop env fuel rest els st := by
  intro fuel
  induction fuel with
  | zero => intro rest i st _ h; simp [condLoop, notOom] at h
  | succ f ih =>
    intro rest i st hd h
    have hlen : cells.length - i = (encodeI rest els).length := by rw [← hd, List.length_drop]
    -- the cell at `i + j` is the `j`-th of what is left
    have hcell : ∀ j, cells[i + j]? = (encodeI rest els)[j]? := fun j => by rw [← hd, List.getElem?_drop]
    cases rest with
    | nil =>
      rw [condLoop_nil] at h ⊢
      rw [iLoopGen]
      cases els with
      | none =>
        have : cells.length - i = 0 := hlen
        -- no cell is left: `icond < m` fails, and so does `icond == m`
        rw [if_neg (by omega), if_neg (by omega)]
      | some b =>
        have hl : cells.length - i = 1 := hlen
        have hb : bodyAt cells i = b := by rw [bodyAt, ← Nat.add_zero i, hcell 0]; rfl
        -- the cell of the else part is left: `icond < m` fails, `icond == m` holds
        rw [if_neg (by omega), if_pos (by omega), hb]
        exact renderOpt_eq _ _ _ _ h
    | cons p rest' =>
      obtain ⟨src, body⟩ := p
      have hl : cells.length - i = (encodeI rest' els).length + 2 := hlen
      have hc : cells[i]? = some (ICell.cond src) := by rw [← Nat.add_zero i, hcell 0]; rfl
      have hb : bodyAt cells (i + 1) = body := by rw [bodyAt, hcell 1]; rfl
      have hd' : cells.drop (i + 2) = encodeI rest' els := by
        rw [← List.drop_drop, hd]; rfl
      rw [condLoop_cons] at h ⊢
      -- two cells or more are left: `icond < m` holds
      rw [iLoop_cond env _ _ f _ src st (by omega) hc, hb]
      cases hce : condEval env f src st with
      | stop r st' => rfl
      | val v st' =>
        rw [hce] at h
        by_cases ht : truthy v = true
        · simp only [ht, if_true] at h ⊢
          exact renderOpt_eq _ _ _ _ h
        · simp only [ht] at h ⊢
          exact ih rest' (i + 2) st' hd' h

theorem gen_if_block_is_model (env : Env) (fuel : Nat) (conds : List (Src × List Blk)) (els : Option (List Blk))
    (st : St)
    (h : Lemmas.IBlock.notOom (condLoop env fuel conds els { st with stack := .dict [] :: st.stack }).1) :
    GenRender.iBlockGen env fuel (Lemmas.IBlock.encodeI conds els) st =
      ((condLoop env fuel conds els { st with stack := .dict [] :: st.stack }).1,
       { (condLoop env fuel conds els { st with stack := .dict [] :: st.stack }).2 with
         stack := (condLoop env fuel conds els { st with stack := .dict [] :: st.stack }).2.stack.drop 1 }) := by
  rw [GenRender.iBlockGen, iLoop_spec env els (Lemmas.IBlock.encodeI conds els) fuel conds 0 _ rfl h]

/-- and that is exactly the conditional of the interpreter: `renderBlk` on a `.cond` block -/
theorem gen_if_block_is_renderBlk (env : Env) (fuel : Nat) (conds : List (Src × List Blk)) (els : Option (List Blk))
    (st : St)
    (h : Lemmas.IBlock.notOom (condLoop env fuel conds els { st with stack := .dict [] :: st.stack }).1) :
    GenRender.iBlockGen env fuel (Lemmas.IBlock.encodeI conds els) st = renderBlk env (fuel + 1) (.cond conds els) st := by
  rw [gen_if_block_is_model env fuel conds els st h]
  simp only [renderBlk]

/-- non-vacuity: `<dtml-if a>A<dtml-else>B</dtml-if>` with `a` true -/
example : (match (GenRender.iBlockGen {} 5 (Lemmas.IBlock.encodeI [(.name "a".toList, [.lit "A".toList])] (some [.lit "B".toList]))
    { stack := [.dict [("a".toList, .int 1)]] }).1 with
    | .ok ps => decide (ps = [Piece.text "A".toList])
    | _ => false) = true := by decide +kernel

/-! ### How dtml-if / dtml-unless are compiled: the constructors of the source, translated on every run

`GenIfCompile.ifInitGen` / `unlessInitGen` / `elseInitGen` are regenerated on every run by translating `DT_If.If.__init__`,
`Unless.__init__` and the class `Else` of /repo statement by statement (harness/trans_ifc.py): the first section's
`parse_params` / `name_param`, `cond = name` or `cond = expr.eval`, the cells `[cond, section.blocks]`, the trailing section
called `else` split off (`blocks[-1][0] == 'else'`, `del blocks[-1]`, its arguments may only repeat the name of the if tag),
the loop over `blocks[1:]` (a further `else` is an error; every other section is an elif with its own condition, its two cells
appended), the else part appended last, the code letter `'i'`.  They store exactly the cells (`encodeI`) of the conditional
the model builds from the same sections (`Lemmas.IfCompile.ifParts` / `unlessParts`: the arguments of `Blk.cond` /
`Blk.unless_`), and fail with the same ParseError, for every list of sections and every expression compiler `ev`. -/
theorem gen_if_compile_is_model (ev : Text → Expr) (secs : List (Parse.Section Blk)) :
    GenIfCompile.ifInitGen ev secs =
      (match Lemmas.IfCompile.ifParts ev secs with
       | .error e => .error e
       | .ok (conds, els) => .ok ("i", Lemmas.IBlock.encodeI conds els)) :=
  Lemmas.IfCompile.ifInit_eq ev secs

theorem gen_unless_compile_is_model (ev : Text → Expr) (secs : List (Parse.Section Blk)) :
    GenIfCompile.unlessInitGen ev secs =
      (match Lemmas.IfCompile.unlessParts ev secs with
       | .error e => .error e
       | .ok (src, body) => .ok ("i", Lemmas.IBlock.encodeI [(src, [])] (some body))) :=
  Lemmas.IfCompile.unlessInit_eq ev secs

/-- the stand-alone `dtml-else NAME` block of the old documentation is dtml-unless -/
theorem gen_else_compile_is_model (ev : Text → Expr) (secs : List (Parse.Section Blk)) :
    GenIfCompile.elseInitGen ev secs = GenIfCompile.unlessInitGen ev secs := rfl

/-- compile, then render - both as translated from the source - is `renderBlk` on the block the model builds from the
sections: the tie between the dtml-if of a template and the `.cond` the theorems of this file are stated about -/
theorem gen_if_compile_renders_as_model (ev : Text → Expr) (secs : List (Parse.Section Blk)) (b : Blk)
    (hb : Lemmas.IfCompile.ifBlock ev secs = .ok b) :
    ∃ conds els cells, b = .cond conds els ∧ GenIfCompile.ifInitGen ev secs = .ok ("i", cells) ∧
      ∀ (env : Env) (fuel : Nat) (st : St),
        Lemmas.IBlock.notOom (condLoop env fuel conds els { st with stack := .dict [] :: st.stack }).1 →
        GenRender.iBlockGen env fuel cells st = renderBlk env (fuel + 1) b st := by
  rw [Lemmas.IfCompile.ifBlock] at hb
  have hg := gen_if_compile_is_model ev secs
  cases hp : Lemmas.IfCompile.ifParts ev secs with
  | error e => rw [hp] at hb; cases hb
  | ok r =>
    obtain ⟨conds, els⟩ := r
    rw [hp] at hb hg
    simp only [Except.ok.injEq] at hb
    subst hb
    exact ⟨conds, els, _, rfl, hg, fun env fuel st h => gen_if_block_is_renderBlk env fuel conds els st h⟩

theorem gen_unless_compile_renders_as_model (ev : Text → Expr) (secs : List (Parse.Section Blk)) (b : Blk)
    (hb : Lemmas.IfCompile.unlessBlock ev secs = .ok b) :
    ∃ src body cells, b = .unless_ src body ∧ GenIfCompile.unlessInitGen ev secs = .ok ("i", cells) ∧
      ∀ (env : Env) (fuel : Nat) (st : St),
        Lemmas.IBlock.notOom (condLoop env fuel [(src, [])] (some body) { st with stack := .dict [] :: st.stack }).1 →
        GenRender.iBlockGen env fuel cells st = renderBlk env (fuel + 1) b st := by
  rw [Lemmas.IfCompile.unlessBlock] at hb
  have hg := gen_unless_compile_is_model ev secs
  cases hp : Lemmas.IfCompile.unlessParts ev secs with
  | error e => rw [hp] at hb; cases hb
  | ok r =>
    obtain ⟨src, body⟩ := r
    rw [hp] at hb hg
    simp only [Except.ok.injEq] at hb
    subst hb
    refine ⟨src, body, _, rfl, hg, fun env fuel st h => ?_⟩
    rw [gen_if_block_is_model env fuel [(src, [])] (some body) st h]
    simp only [renderBlk]

/-- non-vacuity: `<dtml-if a>A<dtml-elif "b">B<dtml-else>C</dtml-if>` compiles to five cells after the code `'i'`;
two else sections are the ParseError of the source; an else tag may repeat the name of its if tag, and no other -/
example : (match GenIfCompile.ifInitGen (fun _ => .lit (.bool true))
      [⟨"if", "a".toList, [.lit "A".toList]⟩, ⟨"elif", "\"b\"".toList, [.lit "B".toList]⟩, ⟨"else", [], [.lit "C".toList]⟩] with
    | .ok (code, [.cond (.name n), .body _, .cond (.expr _), .body _, .body _]) => code == "i" && n == "a".toList
    | _ => false) = true := by decide +kernel
example : (match GenIfCompile.ifInitGen (fun _ => .lit (.bool true))
      [⟨"if", "a".toList, []⟩, ⟨"else", [], []⟩, ⟨"else", [], []⟩] with
    | .error e => e.msg == "more than one else tag for a single if tag"
    | _ => false) = true := by decide +kernel
example : (match GenIfCompile.ifInitGen (fun _ => .lit (.bool true)) [⟨"if", "a".toList, []⟩, ⟨"else", "b".toList, []⟩] with
    | .error e => e.msg == "name in else does not match if"
    | _ => false) = true := by decide +kernel
example : (match GenIfCompile.ifInitGen (fun _ => .lit (.bool true)) [⟨"if", "a".toList, []⟩, ⟨"else", "a".toList, []⟩] with
    | .ok (_, cells) => cells.length == 3
    | _ => false) = true := by decide +kernel
example : (match GenIfCompile.unlessInitGen (fun _ => .lit (.bool true)) [⟨"unless", "a".toList, [.lit "A".toList]⟩] with
    | .ok (code, [.cond (.name n), .body [], .body [_]]) => code == "i" && n == "a".toList
    | _ => false) = true := by decide +kernel

/-! ### The compile model and the parser model fail together

`Parse.checkBlock` (what the parser model does where the source runs a tag's constructor; it is the model Props/C06 and
the correspondence runs of the parser are about) and `Lemmas.IfCompile.ifParts` / `unlessParts` (what the translated
`If.__init__` / `Unless.__init__` are proved equal to, above) are two hand-written models of the same constructors.  On
every list of sections with a first section that is not called `else` - the parser only builds such lists: a block starts
with its own tag - they end in a ParseError on exactly the same inputs, with the same text: the attributes of the if tag,
then a trailing else (its attributes, the name it may repeat), then every elif in order, a second else before its
attributes are looked at. -/
theorem if_parts_error_iff_checkBlock (ev : Text → Expr) (s0 : Parse.Section Blk) (rest : List (Parse.Section Blk))
    (h0 : s0.tname ≠ "else") (e : Parse.PErr) :
    Lemmas.IfCompile.ifParts ev (s0 :: rest) = .error e ↔
      Parse.checkBlock .if_ ((s0 :: rest).map fun s => (s.tname, s.args)) = .error e := by
  rw [← Lemmas.IfCompile.errOf_eq_some, ← Lemmas.IfCompile.errOf_eq_some, Lemmas.IfCompile.if_parts_err_eq ev s0 rest h0]

/-- so the translated constructor fails exactly when the parser model says the block is malformed, with its message -/
theorem gen_if_compile_error_iff_checkBlock (ev : Text → Expr) (s0 : Parse.Section Blk) (rest : List (Parse.Section Blk))
    (h0 : s0.tname ≠ "else") (e : Parse.PErr) :
    GenIfCompile.ifInitGen ev (s0 :: rest) = .error e ↔
      Parse.checkBlock .if_ ((s0 :: rest).map fun s => (s.tname, s.args)) = .error e := by
  rw [← if_parts_error_iff_checkBlock ev s0 rest h0 e, gen_if_compile_is_model]
  cases Lemmas.IfCompile.ifParts ev (s0 :: rest) <;> simp

theorem unless_parts_error_iff_checkBlock (ev : Text → Expr) (s0 : Parse.Section Blk) (rest : List (Parse.Section Blk))
    (e : Parse.PErr) :
    Lemmas.IfCompile.unlessParts ev (s0 :: rest) = .error e ↔
      Parse.checkBlock .unless ((s0 :: rest).map fun s => (s.tname, s.args)) = .error e := by
  rw [← Lemmas.IfCompile.errOf_eq_some, ← Lemmas.IfCompile.errOf_eq_some, Lemmas.IfCompile.unless_parts_err_eq ev s0 rest]

theorem gen_unless_compile_error_iff_checkBlock (ev : Text → Expr) (s0 : Parse.Section Blk) (rest : List (Parse.Section Blk))
    (e : Parse.PErr) :
    GenIfCompile.unlessInitGen ev (s0 :: rest) = .error e ↔
      Parse.checkBlock .unless ((s0 :: rest).map fun s => (s.tname, s.args)) = .error e := by
  rw [← unless_parts_error_iff_checkBlock ev s0 rest e, gen_unless_compile_is_model]
  cases Lemmas.IfCompile.unlessParts ev (s0 :: rest) <;> simp

/-- the hypotheses are needed.  No section at all: the source indexes `blocks[0]` (IndexError, `ifParts`), `checkBlock` reads
empty arguments ("No name given"); a first section called `else`: the source takes it for the trailing else as well
(`blocks[-1][0] == 'else'`) and parses its arguments a second time with the table of an else tag, `checkBlock` does not.  The
parser builds neither list. -/
example : (match Lemmas.IfCompile.ifParts (fun _ => .lit (.bool true)) [],
      Parse.checkBlock .if_ (([] : List (Parse.Section Blk)).map fun s => (s.tname, s.args)) with
    | .error e1, .error e2 => e1.msg == "IndexError" && e2.msg == "No name given"
    | _, _ => false) = true := by decide +kernel
example : (match Lemmas.IfCompile.ifParts (fun _ => .lit (.bool true)) [⟨"else", "expr=\"x\"".toList, []⟩],
      Parse.checkBlock .if_ [("else", "expr=\"x\"".toList)] with
    | .error _, .ok _ => true
    | _, _ => false) = true := by decide +kernel
/-- non-vacuity: the three errors of a malformed dtml-if, from both models -/
example : (match Parse.checkBlock .if_ [("if", "a".toList), ("else", [])  , ("else", [])],
      Lemmas.IfCompile.ifParts (fun _ => .lit (.bool true)) [⟨"if", "a".toList, []⟩, ⟨"else", [], []⟩, ⟨"else", [], []⟩] with
    | .error e1, .error e2 => e1.msg == "more than one else tag for a single if tag" && e1 == e2
    | _, _ => false) = true := by decide +kernel
example : (match Parse.checkBlock .if_ [("if", "a".toList), ("else", "b".toList)],
      Lemmas.IfCompile.ifParts (fun _ => .lit (.bool true)) [⟨"if", "a".toList, []⟩, ⟨"else", "b".toList, []⟩] with
    | .error e1, .error e2 => e1.msg == "name in else does not match if" && e1 == e2
    | _, _ => false) = true := by decide +kernel
example : (match Parse.checkBlock .if_ [("if", "a".toList), ("elif", [])  , ("else", [])],
      Lemmas.IfCompile.ifParts (fun _ => .lit (.bool true)) [⟨"if", "a".toList, []⟩, ⟨"elif", [], []⟩, ⟨"else", [], []⟩] with
    | .error e1, .error e2 => e1.msg == "No name given" && e1 == e2
    | _, _ => false) = true := by decide +kernel

end DTML.Props.C09
