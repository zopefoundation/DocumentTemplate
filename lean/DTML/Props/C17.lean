/-
C17 — Rendering is repeatable and side-effect free; templates survive persistence.
Model: DTML/Tmpl.lean, the template OBJECT as a state machine (DT_String.String): persistent state `raw`, `globals`
(defaults), `vars`; volatile state `cooked` (`_v_blocks`/`_v_cooked`, dropped by `__getstate__`).  Compiling and
rendering a compiled program are parameters (`parse`, `exec`), so rendering is a function of program, defaults,
variables and call inputs.  Here: the invariant `Inv` and what follows from it for every history of operations; a
file-based variant (`FileTmpl`, defined in this file); the operations as translated from DT_String.py (GenTmpl.lean)
against the state machine.
-/
import DTML.Tmpl
import DTML.GenTmpl
namespace DTML.Props.C17
open DTML.Tmpl

variable {Src Prog Dict Inp Out : Type}

/-- **the compiled data is never stale**: it is absent or the compilation of the current source -/
def Inv (E : Engine Src Prog Dict Inp Out) (t : Tmpl Src Prog Dict) : Prop :=
  t.cooked = none ∨ t.cooked = some (E.parse t.raw)

theorem inv_fresh (E : Engine Src Prog Dict Inp Out) (s : Src) (m kw : Dict) : Inv E (fresh E s m kw) := Or.inl rfl

private theorem ensureCooked_eq (E : Engine Src Prog Dict Inp Out) (t : Tmpl Src Prog Dict) (h : Inv E t) :
    ensureCooked E t = { t with cooked := some (E.parse t.raw) } := by
  obtain ⟨raw, globals, vars, cooked⟩ := t
  have h : cooked = none ∨ cooked = some (E.parse raw) := h
  rcases h with rfl | rfl <;> rfl

theorem inv_step (E : Engine Src Prog Dict Inp Out) (t : Tmpl Src Prog Dict) (op : Op Src Dict Inp) (h : Inv E t) :
    Inv E (step E t op).1 := by
  cases op with
  | render i => exact Or.inr (by rw [step, ensureCooked_eq E t h])
  | pickle => exact Or.inl rfl
  | deepcopy => exact Or.inl rfl
  | cook => exact Or.inr rfl
  | mungeSrc s => exact Or.inr rfl
  | mungeVars m kw => exact Or.inr rfl
  | mungeBoth s m kw => exact Or.inr rfl
  | var kw => exact h
  | default kw => exact h

/-- the invariant holds after every history of operations -/
theorem cache_invariant (E : Engine Src Prog Dict Inp Out) (t : Tmpl Src Prog Dict) (ops : List (Op Src Dict Inp))
    (h : Inv E t) : Inv E (run E t ops) := by
  induction ops generalizing t with
  | nil => exact h
  | cons op rest ih => exact ih _ (inv_step E t op h)

/-- what a call returns in a state satisfying the invariant: the rendering of the compilation of
the CURRENT source with the CURRENT defaults and variables — nothing else of the past matters -/
theorem render_result (E : Engine Src Prog Dict Inp Out) (t : Tmpl Src Prog Dict) (i : Inp) (h : Inv E t) :
    (step E t (.render i)).2 = some (E.exec (E.parse t.raw) t.globals t.vars i) := by
  rw [step, ensureCooked_eq E t h]
  rfl

/-- the persistent part of the state -/
def persistent (t : Tmpl Src Prog Dict) : Src × Dict × Dict := (t.raw, t.globals, t.vars)

/-- **Rendering is repeatable and history-independent**: after ANY history of operations, a call
returns exactly what a brand-new template with the same source, defaults and variables returns
for the same inputs — however often and with whatever inputs it was rendered before, and
whether or not it went through pickling, copying, cooking or editing. -/
theorem render_history_independent (E : Engine Src Prog Dict Inp Out) (t0 : Tmpl Src Prog Dict)
    (ops : List (Op Src Dict Inp)) (i : Inp) (h0 : Inv E t0) :
    let t := run E t0 ops
    (step E t (.render i)).2 =
      (step E { raw := t.raw, globals := t.globals, vars := t.vars, cooked := none } (.render i)).2 := by
  intro t
  rw [render_result E t i (cache_invariant E t0 ops h0)]
  rw [render_result E _ i (Or.inl rfl)]

/-- rendering changes nothing persistent: **calls are side-effect free on the template** -/
theorem render_keeps_persistent (E : Engine Src Prog Dict Inp Out) (t : Tmpl Src Prog Dict) (i : Inp) :
    persistent (step E t (.render i)).1 = persistent t := by
  simp only [step, ensureCooked, persistent]
  cases t.cooked <;> rfl

theorem renders_keep_persistent (E : Engine Src Prog Dict Inp Out) : ∀ (l : List Inp) (t : Tmpl Src Prog Dict),
    persistent (run E t (l.map Op.render)) = persistent t
  | [], _ => rfl
  | a :: r, t => (renders_keep_persistent E r _).trans (render_keeps_persistent E t a)

/-- two calls with equal inputs give equal results, whatever calls came between -/
theorem render_repeatable (E : Engine Src Prog Dict Inp Out) (t : Tmpl Src Prog Dict) (between : List Inp) (i : Inp)
    (h : Inv E t) :
    (step E (run E t (between.map Op.render)) (.render i)).2 = (step E t (.render i)).2 := by
  rw [render_result E _ i (cache_invariant E t (between.map Op.render) h), render_result E t i h]
  have := renders_keep_persistent E between t
  simp only [persistent, Prod.mk.injEq] at this
  obtain ⟨h1, h2, h3⟩ := this
  rw [h1, h2, h3]

/-- **Pickling (and deep copying) keeps the persistent state and omits the compiled data** -/
theorem pickle_roundtrip (E : Engine Src Prog Dict Inp Out) (t : Tmpl Src Prog Dict) :
    persistent (step E t .pickle).1 = persistent t ∧ (step E t .pickle).1.cooked = none ∧
    persistent (step E t .deepcopy).1 = persistent t ∧ (step E t .deepcopy).1.cooked = none :=
  ⟨rfl, rfl, rfl, rfl⟩

/-- … so a restored template renders exactly as the original and as a new one -/
theorem restored_renders_same (E : Engine Src Prog Dict Inp Out) (t : Tmpl Src Prog Dict) (i : Inp) (h : Inv E t) :
    (step E (step E t .pickle).1 (.render i)).2 = (step E t (.render i)).2 := by
  rw [render_result E _ i (Or.inl rfl), render_result E t i h]
  rfl

/-- **munge = a new template built from the same source and defaults** -/
theorem munge_eq_fresh (E : Engine Src Prog Dict Inp Out) (t : Tmpl Src Prog Dict) (s : Src) (m kw : Dict) (i : Inp) :
    (step E (step E t (.mungeBoth s m kw)).1 (.render i)).2 = (step E (fresh E s m kw) (.render i)).2 ∧
    persistent (step E t (.mungeBoth s m kw)).1 = persistent (fresh E s m kw) := by
  refine ⟨?_, rfl⟩
  rw [render_result E _ i (Or.inr rfl), render_result E _ i (inv_fresh E s m kw)]
  rfl

/-- editing only the source keeps defaults and variables, and recompiles -/
theorem munge_source (E : Engine Src Prog Dict Inp Out) (t : Tmpl Src Prog Dict) (s : Src) (i : Inp) :
    (step E (step E t (.mungeSrc s)).1 (.render i)).2 = some (E.exec (E.parse s) t.globals t.vars i) := by
  rw [render_result E _ i (Or.inr rfl)]
  rfl

/-! #### file-based templates pickle the name, not the content -/

/-- a file system: name ↦ content.  A file-based template's `raw` is the NAME; reading goes
through the file system at compile time. -/
structure FileTmpl (Name Prog Dict : Type) where
  raw : Name
  globals : Dict
  vars : Dict
  cooked : Option Prog := none

/-- `__getstate__` of a file-based template: only the name and the dictionaries -/
def filePickle {Name : Type} (t : FileTmpl Name Prog Dict) : Name × Dict × Dict := (t.raw, t.globals, t.vars)

/-- the pickled state is a function of the name and the dictionaries alone — it cannot depend on
(or contain) the file's content: two templates over the same name pickle identically whatever
they have compiled, and after a restore the content is read again from the file system -/
theorem file_pickles_name {Name Content : Type} (fs1 fs2 : Name → Content) (parse : Content → Prog)
    (n : Name) (g v : Dict) :
    filePickle ({ raw := n, globals := g, vars := v, cooked := some (parse (fs1 n)) } : FileTmpl Name Prog Dict) =
    filePickle ({ raw := n, globals := g, vars := v, cooked := some (parse (fs2 n)) } : FileTmpl Name Prog Dict) := rfl


/-! #### the object life cycle translated from DT_String.py on every run = the state machine of Tmpl.lean

`GenTmpl.*Gen` are regenerated from the source of `String.__init__`, `initvars`, `cook`, `munge`, `var`, `default`,
`__getstate__` and the cook-on-first-use block of `__call__` (harness/trans_tmpl.py).  The record `TObj` has the two
volatile attributes separately; `abs` maps it to the model's state, `Coh` says that `_v_cooked` is present exactly when
`_v_blocks` is (every operation keeps it, a new object has it). -/

section Gen
open DTML.GenTmpl

/-- the model's state of an object -/
def abs (o : TObj Src Prog Dict) : Tmpl Src Prog Dict :=
  { raw := o.raw, globals := o.globals, vars := o.vars, cooked := if o.v_cooked then o.v_blocks else none }

/-- `_v_cooked` and `_v_blocks` are present together -/
def Coh (o : TObj Src Prog Dict) : Prop := o.v_cooked = o.v_blocks.isSome

theorem gen_init_is_fresh (E : Engine Src Prog Dict Inp Out) (s : Src) (m kw : Dict) :
    abs (initGen E s (some m) kw) = fresh E s m kw ∧ Coh (initGen E s (some m) kw) := ⟨rfl, rfl⟩

theorem gen_cook_is_model (E : Engine Src Prog Dict Inp Out) (o : TObj Src Prog Dict) :
    abs (cookGen E o) = (step E (abs o) .cook).1 ∧ Coh (cookGen E o) := ⟨rfl, rfl⟩

/-- `munge(source)`, `munge(None, mapping, **kw)`, `munge(source, mapping, **kw)` -/
theorem gen_munge_is_model (E : Engine Src Prog Dict Inp Out) (o : TObj Src Prog Dict) (s : Src) (m kw : Dict) (b : Bool) :
    abs (mungeGen E o (some s) none kw false) = (step E (abs o) (.mungeSrc s)).1 ∧
    abs (mungeGen E o none (some m) kw b) = (step E (abs o) (.mungeVars m kw)).1 ∧
    abs (mungeGen E o (some s) (some m) kw b) = (step E (abs o) (.mungeBoth s m kw)).1 ∧
    Coh (mungeGen E o (some s) none kw false) ∧ Coh (mungeGen E o none (some m) kw b) ∧
    Coh (mungeGen E o (some s) (some m) kw b) := ⟨rfl, rfl, rfl, rfl, rfl, rfl⟩

theorem gen_var_default_is_model (E : Engine Src Prog Dict Inp Out) (o : TObj Src Prog Dict) (kw : Dict) :
    abs (varGen E o kw) = (step E (abs o) (.var kw)).1 ∧ abs (defaultGen E o kw) = (step E (abs o) (.default kw)).1 ∧
    (Coh o → Coh (varGen E o kw) ∧ Coh (defaultGen E o kw)) := ⟨rfl, rfl, fun h => ⟨h, h⟩⟩

/-- `__getstate__` + restoring the state into a new instance = the model's `pickle` / `deepcopy`: the three persistent
attributes survive, both volatile ones are gone -/
theorem gen_getstate_is_model (E : Engine Src Prog Dict Inp Out) (o : TObj Src Prog Dict) :
    ∃ o', restore (getstateGen o) = some o' ∧ abs o' = (step E (abs o) .pickle).1 ∧
      abs o' = (step E (abs o) .deepcopy).1 ∧ o'.v_blocks = none ∧ o'.v_cooked = false :=
  ⟨_, rfl, rfl, rfl, rfl, rfl⟩

/-- a call cooks when (and only when) `_v_cooked` is absent and renders `_v_blocks` -/
theorem gen_render_is_model (E : Engine Src Prog Dict Inp Out) (o : TObj Src Prog Dict) (i : Inp) (h : Coh o) :
    abs (renderGen E o i).1 = (step E (abs o) (.render i)).1 ∧ (renderGen E o i).2 = (step E (abs o) (.render i)).2 ∧
    Coh (renderGen E o i).1 := by
  obtain ⟨raw, globals, vars, blocks, cooked⟩ := o
  cases blocks with
  | none =>
    -- no program, hence (`h`) no flag: the call cooks, on both sides
    cases (h : cooked = false)
    exact ⟨rfl, rfl, rfl⟩
  | some p =>
    cases (h : cooked = true)
    exact ⟨rfl, rfl, rfl⟩

example : Coh (initGen (Src := Nat) (Prog := Nat) (Dict := Nat) (Inp := Nat) (Out := Nat)
    ⟨id, fun p _ _ _ => p, (· + ·), (· + ·), 0⟩ 1 (some 2) 3) := rfl

end Gen

/-! #### the hypotheses are satisfiable: a concrete engine and history -/

section Example
private def E : Engine Nat Nat Nat Nat (Nat × Nat × Nat × Nat) :=
  { parse := fun s => s * 10, exec := fun p g v i => (p, g, v, i), initvars := fun m kw => m + kw,
    update := fun d kw => d + kw, empty := 0 }
-- render, edit, pickle, render again: the second call sees the new source and nothing of the first call
example : (step E (run E (fresh E 1 2 3) [.render 7, .mungeSrc 4, .pickle, .var 5]) (.render 9)).2 = some (40, 5, 5, 9) := by
  decide
example : Inv E (run E (fresh E 1 2 3) [.render 7, .mungeSrc 4, .cook, .render 1]) := by
  exact cache_invariant E _ _ (inv_fresh E 1 2 3)
end Example

end DTML.Props.C17
