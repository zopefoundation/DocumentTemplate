/-
C14 — try/except/else/finally, raise and return follow Python-like control flow.
Model: DTML/Render.lean (`Blk.try_`, `Blk.tryFin`, `Blk.raise_`, `Blk.ret`, `findHandler`,
`matchBase`, `callSub`, `topCall`).  All statements hold for every program, namespace,
class table, fault plan and fuel.  They use the block equations of Lemmas/Interp and stack restoration from Props/C08.
After the concrete example, the obligations on the source as translated on every run: `Try.find_handler` / `match_base`,
`render_try_except` / `render_try_finally`, `ReturnTag.render` (GenRender, with Lemmas/IBlock) and `Raise.render` (GenRaise,
harness/trans_raise.py).
-/
import DTML.Render
import DTML.Props.C08
import DTML.GenRender
import DTML.GenRaise
import DTML.Lemmas.Interp
import DTML.Lemmas.IBlock
namespace DTML.Props.C14
open DTML.Render

/-- `name` names the class `cls` itself, is the bare handler, or names a (transitive) base -/
def handles (env : Env) (cls name : Text) : Bool :=
  name == cls || name.isEmpty || matchBase env 16 cls name

theorem findHandler_eq (env : Env) (hs : List (Text × List Blk)) (cls : Text) :
    findHandler env hs cls = (hs.find? fun h => handles env cls h.1).map (·.2) := rfl

/-- **Only the first matching handler is chosen**: `findHandler` returns the body of a handler
iff the list splits into handlers that do not match, that handler, and the rest. -/
theorem handler_selected (env : Env) (hs : List (Text × List Blk)) (cls : Text) (h : List Blk) :
    findHandler env hs cls = some h ↔
      ∃ pre name post, hs = pre ++ (name, h) :: post ∧ handles env cls name = true ∧
        ∀ p ∈ pre, handles env cls p.1 = false := by
  rw [findHandler_eq, Option.map_eq_some_iff]
  constructor
  · rintro ⟨⟨name, _⟩, hfind, rfl⟩
    obtain ⟨hm, pre, post, rfl, hpre⟩ := List.find?_eq_some_iff_append.mp hfind
    exact ⟨pre, name, post, rfl, hm, fun p hp => by simpa using hpre p hp⟩
  · rintro ⟨pre, name, post, rfl, hm, hpre⟩
    exact ⟨(name, h), List.find?_eq_some_iff_append.mpr ⟨hm, pre, post, rfl, fun p hp => by simpa using hpre p hp⟩, rfl⟩

/-- no handler matches iff none of them names the class, a base of it, or is bare -/
theorem no_handler_iff (env : Env) (hs : List (Text × List Blk)) (cls : Text) :
    findHandler env hs cls = none ↔ ∀ p ∈ hs, handles env cls p.1 = false := by
  rw [findHandler_eq, Option.map_eq_none_iff, List.find?_eq_none]
  simp

/-- the class table's base relation, transitively: `name` is a proper ancestor of `cls` -/
inductive IsBase (env : Env) : Text → Text → Prop where
  | direct {cls name : Text} {bases : List Text} :
      env.classes.lookup cls = some bases → name ∈ bases → IsBase env cls name
  | step {cls mid name : Text} {bases : List Text} :
      env.classes.lookup cls = some bases → mid ∈ bases → IsBase env mid name → IsBase env cls name

/-- `match_base` only ever answers yes for a genuine ancestor -/
theorem matchBase_sound (env : Env) : ∀ (fuel : Nat) (cls name : Text),
    matchBase env fuel cls name = true → IsBase env cls name := by
  intro fuel
  induction fuel with
  | zero => intro cls name h; cases h
  | succ n ih =>
    intro cls name h
    obtain ⟨bases, hl, b, hb, rfl | hrec⟩ := (matchBase_succ env n cls name).mp h
    · exact .direct hl hb
    · exact .step hl hb (ih b name hrec)

/-- ancestors reached through at most `n` inheritance steps -/
inductive IsBaseN (env : Env) : Nat → Text → Text → Prop where
  | direct {cls name : Text} {bases : List Text} {n : Nat} :
      env.classes.lookup cls = some bases → name ∈ bases → IsBaseN env (n + 1) cls name
  | step {cls mid name : Text} {bases : List Text} {n : Nat} :
      env.classes.lookup cls = some bases → mid ∈ bases → IsBaseN env n mid name → IsBaseN env (n + 1) cls name

/-- `match_base` answers yes for every ancestor within its depth (16 levels of inheritance) -/
theorem matchBase_complete (env : Env) : ∀ (n : Nat) (cls name : Text),
    IsBaseN env n cls name → matchBase env n cls name = true := by
  intro n cls name h
  induction h with
  | direct hl hb => exact (matchBase_succ ..).mpr ⟨_, hl, _, hb, .inl rfl⟩
  | step hl hb _ ih => exact (matchBase_succ ..).mpr ⟨_, hl, _, hb, .inr ih⟩

/-- what the handler sees: error_type / error_value / error_tb, as an instance frame -/
def errorFrame (ex : Exc) : Frame :=
  let internal := ["TypeError", "AttributeError", "NameError", "IndexError", "UnicodeDecodeError", "Unauthorized"].map String.toList
  let msg := if internal.contains ex.cls then [Char.ofNat 0xFFFF] else ex.msg
  .inst (.obj 0 [("error_type".toList, .str ex.cls), ("error_value".toList, .exc ex.cls msg),
                 ("error_tb".toList, .str "traceback".toList)]) []

/-- **The body raised nothing**: its output is kept; the else body (when there is one) is
rendered and appended; the handlers play no part whatever they are. -/
theorem try_no_exception (env : Env) (fuel : Nat) (body : List Blk) (hs : List (Text × List Blk))
    (els : Option (List Blk)) (st st1 : St) (p : Piece)
    (h : renderJoined env fuel body st = (.ok p, st1)) :
    renderBlk env (fuel + 1) (.try_ body hs els) st =
      match els with
      | none => (.ok (if pieceEmpty p then [] else [p]), st1)
      | some e =>
        (match renderJoined env fuel e st1 with
         | (.ok q, st2) => join2 env p q st2
         | (.raise x, st2) => (.raise x, st2)
         | (.ret x, st2) => (.ret x, st2)
         | (.oom, st2) => (.oom, st2)) := by
  rw [renderBlk_try, h]
  cases els with
  | none => rfl
  | some e =>
    dsimp only [always]
    rcases renderJoined env fuel e st1 with ⟨_ | _ | _ | _, st2⟩ <;> rfl

/-- **Exceptions raised inside the else body propagate** — they are not offered to the handlers -/
theorem else_exception_propagates (env : Env) (fuel : Nat) (body e : List Blk) (hs : List (Text × List Blk))
    (st st1 st2 : St) (p : Piece) (x : Exc)
    (h : renderJoined env fuel body st = (.ok p, st1))
    (he : renderJoined env fuel e st1 = (.raise x, st2)) :
    renderBlk env (fuel + 1) (.try_ body hs (some e)) st = (.raise x, st2) := by
  rw [try_no_exception env fuel body hs (some e) st st1 p h]
  simp only [he]

/-- **An unmatched exception propagates**; neither a handler nor the else body is rendered -/
theorem unmatched_propagates (env : Env) (fuel : Nat) (body : List Blk) (hs : List (Text × List Blk))
    (els : Option (List Blk)) (st st1 : St) (ex : Exc)
    (h : renderJoined env fuel body st = (.raise ex, st1))
    (hn : findHandler env hs ex.cls = none) :
    renderBlk env (fuel + 1) (.try_ body hs els) st = (.raise ex, st1) := by
  simp only [renderBlk_try, h, always, hn]

/-- **A matched exception renders exactly the selected handler**, inside a frame binding
error_type / error_value / error_tb that is pushed for the handler only; the handler's output
is the tag's whole output (the body's partial output is gone), and the else body is not rendered. -/
theorem handler_rendered (env : Env) (fuel : Nat) (body hb : List Blk) (hs : List (Text × List Blk))
    (els : Option (List Blk)) (st st1 : St) (ex : Exc)
    (h : renderJoined env fuel body st = (.raise ex, st1))
    (hf : findHandler env hs ex.cls = some hb) :
    renderBlk env (fuel + 1) (.try_ body hs els) st = oneRes (framed env fuel (errorFrame ex) hb st1) := by
  simp only [renderBlk_try, h, always, hf]
  rfl

/-- the else body is irrelevant once the body raised: **else only without an exception** -/
theorem else_only_without_exception (env : Env) (fuel : Nat) (body : List Blk) (hs : List (Text × List Blk))
    (els els' : Option (List Blk)) (st st1 : St) (ex : Exc)
    (h : renderJoined env fuel body st = (.raise ex, st1)) :
    renderBlk env (fuel + 1) (.try_ body hs els) st = renderBlk env (fuel + 1) (.try_ body hs els') st := by
  simp only [renderBlk_try, h, always]

/-- **Exceptions raised inside a handler propagate** (no second handler is tried) -/
theorem handler_exception_propagates (env : Env) (fuel : Nat) (body hb : List Blk) (hs : List (Text × List Blk))
    (els : Option (List Blk)) (st st1 st2 : St) (ex x : Exc)
    (h : renderJoined env fuel body st = (.raise ex, st1))
    (hf : findHandler env hs ex.cls = some hb)
    (hh : framed env fuel (errorFrame ex) hb st1 = (.raise x, st2)) :
    renderBlk env (fuel + 1) (.try_ body hs els) st = (.raise x, st2) := by
  rw [handler_rendered env fuel body hb hs els st st1 ex h hf, hh]; rfl

/-- inside the handler `error_type` is the class name and `error_value` the exception -/
theorem handler_bindings (env : Env) (ex : Exc) (tr : List Event) (hg : env.guardOn = false) :
    (match frameGet env (errorFrame ex) "error_type".toList tr with
     | (.val v _, tr') => v = .str ex.cls ∧ tr' = tr
     | _ => False) ∧
    (match frameGet env (errorFrame ex) "error_value".toList tr with
     | (.val (.exc c _) _, tr') => c = ex.cls ∧ tr' = tr
     | _ => False) := by
  have hne : ("error_value".toList == "error_type".toList) = false := by decide +kernel
  -- two public attributes of the error object, the first and the second of its list, read without a guard
  rw [errorFrame, frameGet_inst_obj env _ tr rfl (by decide +kernel), frameGet_inst_obj env _ tr rfl (by decide +kernel),
    List.lookup_cons_self, List.lookup_cons, hne, List.lookup_cons_self]
  simp only [hg, Bool.false_and, Bool.false_eq_true, if_false, and_self]

/-- **The handler's bindings exist only inside the handler**: when the tag is done the namespace is what it was (C08), so the
bindings are gone -/
theorem handler_bindings_scoped (env : Env) (fuel : Nat) (body : List Blk) (hs : List (Text × List Blk))
    (els : Option (List Blk)) (st : St) :
    (renderBlk env fuel (.try_ body hs els) st).2.stack.map C08.erase = st.stack.map C08.erase :=
  (C08.block_preserves_stack env fuel (.try_ body hs els) st).1

/-- **dtml-return passes through try/except**: no handler (not even a bare one) sees it -/
theorem return_not_caught (env : Env) (fuel : Nat) (body : List Blk) (hs : List (Text × List Blk))
    (els : Option (List Blk)) (st st1 : St) (v : Val)
    (h : renderJoined env fuel body st = (.ret v, st1)) :
    renderBlk env (fuel + 1) (.try_ body hs els) st = (.ret v, st1) := by
  simp only [renderBlk_try, h, always]

/-- a return ends the rendering of the enclosing block list at once -/
theorem return_stops_blocks (env : Env) (fuel : Nat) (b : Blk) (rest : List Blk) (st st1 : St) (v : Val)
    (h : renderBlk env fuel b st = (.ret v, st1)) :
    renderBlocks env (fuel + 1) (b :: rest) st = (.ret v, st1) := by
  simp only [renderBlocks, h]

theorem return_after_output (env : Env) (fuel : Nat) (b : Blk) (rest : List Blk) (st st1 st2 : St)
    (ps : List Piece) (v : Val)
    (h : renderBlk env fuel b st = (.ok ps, st1))
    (hr : renderBlocks env fuel rest st1 = (.ret v, st2)) :
    renderBlocks env (fuel + 1) (b :: rest) st = (.ret v, st2) := by
  simp only [renderBlocks, h, hr]

/-- joined bodies pass a return on unchanged -/
theorem return_through_join (env : Env) (fuel : Nat) (body : List Blk) (st st1 : St) (v : Val)
    (h : renderBlocks env fuel body st = (.ret v, st1)) :
    renderJoined env (fuel + 1) body st = (.ret v, st1) := by
  simp only [renderJoined, h, joinRes]

theorem return_through_frame (env : Env) (fuel : Nat) (f : Frame) (body : List Blk) (st st1 : St) (v : Val)
    (h : renderBlocks env fuel body { st with stack := f :: st.stack } = (.ret v, st1)) :
    framed env (fuel + 2) f body st = (.ret v, { st1 with stack := st1.stack.drop 1 }) := by
  simp only [framed, withFrame, h, joinRes]

/-- **dtml-return inside a dtml-raise body** ends the call too (it is not turned into an error) -/
theorem return_through_raise (env : Env) (fuel : Nat) (cls c : Text) (ce : Option Expr) (body : List Blk)
    (st st0 st1 : St) (v : Val)
    (hc : raiseClass env fuel cls ce st = (some c, st0))
    (h : renderJoined env fuel body st0 = (.ret v, st1)) :
    renderBlk env (fuel + 1) (.raise_ cls ce body) st = (.ret v, st1) := by
  simp only [renderBlk_raise, hc, classOf, andThen, h, always]

/-- **The enclosing template call returns the value**, of whatever type -/
theorem return_ends_call (env : Env) (fuel : Nat) (t : Template) (c : CallArgs) (st1 : St) (v : Val)
    (h : renderBlocks env fuel t.blocks { stack := callStack t c, level := 1 } = (.ret v, st1)) :
    topCall env fuel t c = (.ok v, st1) := by
  simp only [topCall, h]

/-- a template invoked by name returns the value too (its caller goes on with it) -/
theorem return_ends_subtemplate (env : Env) (fuel id : Nat) (t : Template) (st st2 : St) (v : Val)
    (ht : env.templates[id]? = some t) (hl : ¬ st.level > 200)
    (h : renderBlocks env fuel t.blocks
          { st with stack := (if t.vars.isEmpty then [] else [Frame.dict t.vars]) ++
                             (if t.globals.isEmpty then [] else [Frame.dict t.globals]) ++ st.stack,
                    level := st.level + 1 } = (.ret v, st2)) :
    (callSub env (fuel + 1) id st).1 = .ok v := by
  rw [callSub_succ, ht]
  dsimp only
  rw [if_neg hl, subFrames, h]
  rfl

/-- **The finally body is rendered exactly once, after the body, on every path**: whatever the
body's outcome — output, exception or return — the state after the tag is the state after
rendering the body and then the finally body once. -/
theorem finally_exactly_once (env : Env) (fuel : Nat) (body fin : List Blk) (st : St)
    (hb : (renderJoined env fuel body st).1 ≠ .oom) :
    (renderBlk env (fuel + 1) (.tryFin body fin) st).2 =
      (renderJoined env fuel fin (renderJoined env fuel body st).2).2 := by
  rw [renderBlk_tryFin, always_of_ne_oom hb]
  rcases renderJoined env fuel fin (renderJoined env fuel body st).2 with ⟨q | _ | _ | _, s⟩
  · -- the finally body rendered: whatever the outcome of the body, what is made of the two leaves the state alone
    cases (renderJoined env fuel body st).1 <;> first | rfl | exact join2_snd ..
  all_goals rfl

/-- **After the finally body the pending exception continues** -/
theorem finally_then_exception (env : Env) (fuel : Nat) (body fin : List Blk) (st st1 st2 : St) (ex : Exc) (q : Piece)
    (h : renderJoined env fuel body st = (.raise ex, st1))
    (hf : renderJoined env fuel fin st1 = (.ok q, st2)) :
    renderBlk env (fuel + 1) (.tryFin body fin) st = (.raise ex, st2) := by
  simp only [renderBlk_tryFin, h, always, hf, andThen]

/-- **After the finally body the pending return continues** -/
theorem finally_then_return (env : Env) (fuel : Nat) (body fin : List Blk) (st st1 st2 : St) (v : Val) (q : Piece)
    (h : renderJoined env fuel body st = (.ret v, st1))
    (hf : renderJoined env fuel fin st1 = (.ok q, st2)) :
    renderBlk env (fuel + 1) (.tryFin body fin) st = (.ret v, st2) := by
  simp only [renderBlk_tryFin, h, always, hf, andThen]

/-- without an exception the finally output follows the body's -/
theorem finally_appended (env : Env) (fuel : Nat) (body fin : List Blk) (st st1 st2 : St) (p q : Piece)
    (h : renderJoined env fuel body st = (.ok p, st1))
    (hf : renderJoined env fuel fin st1 = (.ok q, st2)) :
    renderBlk env (fuel + 1) (.tryFin body fin) st = join2 env p q st2 := by
  simp only [renderBlk_tryFin, h, always, hf, andThen]

/-- an exception (or return) of the finally body itself replaces the pending outcome -/
theorem finally_own_exception (env : Env) (fuel : Nat) (body fin : List Blk) (st st2 : St) (x : Exc)
    (hb : (renderJoined env fuel body st).1 ≠ .oom)
    (hf : renderJoined env fuel fin (renderJoined env fuel body st).2 = (.raise x, st2)) :
    renderBlk env (fuel + 1) (.tryFin body fin) st = (.raise x, st2) := by
  rw [renderBlk_tryFin, always_of_ne_oom hb, hf]
  rfl

/-- **dtml-raise raises the named / computed class with the rendered body as its message** -/
theorem raise_raises (env : Env) (fuel : Nat) (cls c : Text) (ce : Option Expr) (body : List Blk)
    (st st0 st1 : St) (p : Piece)
    (hc : raiseClass env fuel cls ce st = (some c, st0))
    (h : renderJoined env fuel body st0 = (.ok p, st1)) :
    renderBlk env (fuel + 1) (.raise_ cls ce body) st = (.raise ⟨c, ustr (valOfPiece p)⟩, st1) := by
  simp only [renderBlk_raise, hc, classOf, andThen, h, always]

/-- by name: a class of the table is raised as such, any other name gives RuntimeError -/
theorem raise_class_by_name (env : Env) (fuel : Nat) (cls : Text) (st : St) :
    raiseClass env (fuel + 1) cls none st =
      (some (if (env.classes.lookup cls).isSome then cls else "RuntimeError".toList), st) := by
  unfold raiseClass
  rfl

/-- by expression: the class the expression evaluates to -/
theorem raise_class_by_expr (env : Env) (fuel : Nat) (cls c m : Text) (e : Expr) (st st' : St)
    (h : evalExpr env fuel e st = (.ok (.exc c m), st')) :
    raiseClass env (fuel + 1) cls (some e) st = (some c, st') := by
  unfold raiseClass
  simp only [h]

/-- by an expression that raises: the class named like the tag's `__name__` (the text of the expression) when there is
one, else InvalidErrorTypeExpression -/
theorem raise_class_expr_raises (env : Env) (fuel : Nat) (cls : Text) (e : Expr) (st st' : St) (x : Exc)
    (h : evalExpr env fuel e st = (.raise x, st')) :
    raiseClass env (fuel + 1) cls (some e) st =
      (some (if (env.classes.lookup cls).isSome then cls else "InvalidErrorTypeExpression".toList), st') := by
  unfold raiseClass
  simp only [h]

/-! #### the hypotheses are satisfiable -/

section Example
private def classes : List (Text × List Text) :=
  [("E3".toList, ["E2".toList]), ("E2".toList, ["E1".toList]), ("E1".toList, ["Exception".toList]),
   ("KeyError".toList, ["LookupError".toList]), ("LookupError".toList, ["Exception".toList])]
private def env : Env := { classes := classes }
private def okPieces : Res (List Piece) → Option (List Piece)
  | .ok ps => some ps
  | _ => none

-- the general handler listed first wins over the more specific one listed second
set_option maxHeartbeats 2000000 in
example : okPieces (renderBlk env 50 (.try_ [.lit "body".toList, .raise_ "KeyError".toList none [.lit "k".toList]]
    [("ValueError".toList, [.lit "V".toList]), ("LookupError".toList, [.lit "L:".toList, .var (.name "error_type".toList) false none none]),
     ("KeyError".toList, [.lit "K".toList])] (some [.lit "ELSE".toList])) {}).1 =
    some [.text "L:KeyError".toList] := by decide +kernel

-- return inside try/except inside try/finally: not caught, finally rendered (its call is traced)
set_option maxHeartbeats 2000000 in
example : (topCall env 60 { blocks := [.lit "a".toList,
      .tryFin [.try_ [.ret (.expr (.lit (.int 5)))] [("".toList, [.lit "caught".toList])] none]
              [.call (.name "f".toList)]] }
      { kw := [("f".toList, .fn 1 .none)] }).2.trace = [.call 1] := by decide +kernel
end Example

/-! ### The handler search of the model is the one of the source

`GenRender.findHandlerGen` / `matchBaseGen` are regenerated on every run from `Try.find_handler` / `Try.match_base` in /repo
(the loop over the handlers with its three tests in the order of the source - the class's own name, the unnamed handler,
a base class - and `return None`; the loop over `__bases__` with the recursive test).  They compute `findHandler` /
`matchBase`, which `handler_selected`, `matchBase_sound` and `matchBase_complete` above are stated about. -/

theorem gen_match_base_is_model (env : Env) : ∀ (fuel : Nat) (cls name : Text),
    GenRender.matchBaseGen env fuel cls name = matchBase env fuel cls name := by
  intro fuel
  induction fuel with
  | zero => intro cls name; rfl
  | succ f ih =>
    intro cls name
    simp only [GenRender.matchBaseGen, matchBase, ih]
    cases env.classes.lookup cls <;> rfl

theorem gen_find_handler_is_model (env : Env) (cls : Text) : ∀ (hs : List (Text × List Blk)),
    GenRender.findHandlerGen env hs cls = findHandler env hs cls := by
  intro hs
  induction hs with
  | nil => rfl
  | cons p rest ih =>
    obtain ⟨e, h⟩ := p
    rw [GenRender.findHandlerGen, gen_match_base_is_model, ih, findHandler_eq, findHandler_eq, List.find?_cons]
    show (if handles env cls e = true then _ else _) = _
    cases handles env cls e <;> rfl

/-- **dtml-try with handlers is `Try.render_try_except` of the source** (regenerated on every run: the body, `except
DTReturn: raise`, the handler `find_handler` selects rendered on top of the error namespace - whose names are read off the
`namespace(md, error_type=…, error_value=…, error_tb=…)` call - and popped in `finally`, the else block joined to the
body's output) -/
theorem gen_try_except_is_model (env : Env) (fuel : Nat) (body : List Blk) (handlers : List (Text × List Blk))
    (els : Option (List Blk)) (st : St) :
    GenRender.tryExceptGen env fuel body handlers els st = renderBlk env (fuel + 1) (.try_ body handlers els) st := by
  rw [GenRender.tryExceptGen]
  simp only [gen_find_handler_is_model, Lemmas.IBlock.pushedGen_eq]
  rfl

/-- **dtml-try with a finally block is `Try.render_try_finally` of the source** -/
theorem gen_try_finally_is_model (env : Env) (fuel : Nat) (body fin : List Blk) (st : St) :
    GenRender.tryFinallyGen env fuel body fin st = renderBlk env (fuel + 1) (.tryFin body fin) st :=
  rfl

/-- **dtml-return is `ReturnTag.render` of the source** -/
theorem gen_return_is_model (env : Env) (fuel : Nat) (src : Src) (st : St) :
    GenRender.returnGen env fuel src st = renderBlk env (fuel + 1) (.ret src) st :=
  rfl

/-! ### dtml-raise of the model is `Raise.render` of the source

`GenRaise.raiseGen` (with `raiseStage1Gen`: which class, `raiseStage2Gen`: which message) is regenerated on every run from
`Raise.render` in /repo, statement by statement (harness/trans_raise.py): `expr is None` -> `convertExceptionType(self.__name__)`
with the `RuntimeError` default, else `expr.eval(md)` inside `try … except Exception:` with the class of that name or
`InvalidErrorTypeExpression`; then the section with `except DTReturn: raise` / `except Exception: v = 'Invalid Error Value'`;
the test in front of `upgradeException`; `raise t(v)`.  It computes what the interpreter does on `Blk.raise_`, the block
that `raise_raises`, `return_through_raise`, `raise_class_by_name` / `raise_class_by_expr` above are stated about. -/

/-- the class `raise t(v)` ends up raising: `t` itself, or the AttributeError of `upgradeException` for a `t` that is no class -/
private def raised : Val → Text
  | .exc c _ => c
  | _ => "AttributeError".toList

/-- the class `convertExceptionType` finds, or the default of the source -/
private theorem stage1_default (env : Env) (cls dflt : Text) (st : St) :
    (if GenRaise.isNone (GenRaise.convertExceptionType env cls) then
        ((.ok (GenRaise.classNamed dflt), st) : Res Val × St)
      else (.ok (GenRaise.convertExceptionType env cls), st)) =
    (.ok (.exc (if (env.classes.lookup cls).isSome then cls else dflt) []), st) := by
  unfold GenRaise.convertExceptionType
  split <;> rfl

/-- the first stage of the source computes the class `raiseClass` names -/
private theorem stage1_eq (env : Env) (f : Nat) (cls : Text) (ce : Option Expr) (body : List Blk) (st : St) :
    andThen (GenRaise.raiseStage1Gen env f cls ce body st) (fun t s => (.ok (raised t), s)) =
      classOf (raiseClass env (f + 1) cls ce st) := by
  rw [raiseClass_succ]
  unfold GenRaise.raiseStage1Gen
  simp only [stage1_default]
  cases ce with
  | none => rfl
  | some e =>
    dsimp only
    rcases evalExpr env f e st with ⟨v | _ | _ | _, s⟩
    · cases v <;> rfl
    all_goals rfl

/-- **dtml-raise is `Raise.render` of the source**, for every class table, name, expression, section, namespace and fuel -/
theorem gen_raise_is_model (env : Env) (fuel : Nat) (cls : Text) (ce : Option Expr) (body : List Blk) (st : St) :
    GenRaise.raiseGen env fuel cls ce body st = renderBlk env (fuel + 1) (.raise_ cls ce body) st := by
  cases fuel with
  | zero => rfl
  | succ f =>
    rw [GenRaise.raiseGen, renderBlk_raise, ← stage1_eq env f cls ce body st]
    rcases GenRaise.raiseStage1Gen env f cls ce body st with ⟨t | _ | _ | _, s⟩
    · -- the second stage and `raise t(v)`: the section rendered, its text (or the default of the source) the message
      dsimp only [andThen]
      rw [GenRaise.raiseStage2Gen]
      -- a class passes the test in front of `upgradeException` and is raised; any other value ends in its AttributeError
      have hsub (c m) : GenRaise.isSubclass (.exc c m) "BaseException".toList = true := beq_self_eq_true _
      rcases renderJoined env (f + 1) body s with ⟨p | _ | _ | _, s'⟩
      · cases t with
        | exc c m => rw [hsub]; rfl
        | _ => rfl
      · cases t with
        | exc c m => rw [hsub]; rfl
        | _ => rfl
      · rfl
      · rfl
    all_goals rfl

end DTML.Props.C14
