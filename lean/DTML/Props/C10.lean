/-
C10 — dtml-in visits each element once, in order, with correct sequence variables.
Model: DTML/Render.lean (`Blk.in_` → `inLoop`/`inIter` = InClass.renderwob, `SeqVars` +
`seqLookup` = sequence_variables.__getitem__ for the documented names, `toRoman`).
The batched renderer's window arithmetic is C11's model (Batch.lean); its loop (`inLoopB`) is in `namespace Batched`.
The loop equations and the facts about the sequence variables are those of Lemmas/Interp and Lemmas/LoopVars.
The second half holds the obligations on the source as translated on every run: the loop and the whole of
`InClass.renderwob`, the loop of `renderwb` (GenIn, harness/trans_in.py; with Lemmas/InGen; the prologue of `renderwb` is in
Props/C11), the per-index methods and the dispatch of `sequence_variables.__getitem__` (GenSeqVar,
harness/trans_seqvar.py; with Lemmas/SeqVar), and the instance lookup behind the per-item pushes (GenNs, by Props/C02).
-/
import DTML.Render
import DTML.Props.C08
import DTML.Props.C11
import DTML.Props.C02
import DTML.GenIn
import DTML.Lemmas.InGen
import DTML.Lemmas.SeqVar
import DTML.Lemmas.LoopVars
namespace DTML.Props.C10
open DTML.Render

/-- the sequence-variables frame as the loop sets it for element `i` -/
def svAt (sv : SeqVars) (i : Nat) : SeqVars :=
  { sv with index := i, ended := sv.ended || i + 1 == sv.items.length, started := i == 0 }

/-- the namespace at element `i`: the loop's sequence-variables frame (top of stack) updated -/
def setSeq (sv' : SeqVars) (st : St) : St :=
  match st.stack with
  | .seq _ :: fs => { st with stack := .seq sv' :: fs }
  | _ => st

/-- **The loop's step rule** (no item guard installed; with a guard see C05): nothing past the end;
otherwise element `i` is rendered once with the sequence variables of position `i`, then the loop
continues with `i + 1` -/
theorem inLoop_step (env : Env) (hg : env.guardOn = false) (fuel : Nat) (sv : SeqVars) (o : InOpts) (body : List Blk)
    (i : Nat) (st : St) :
    inLoop env (fuel + 1) sv o body i st =
      if i ≥ sv.items.length then (.ok [], st)
      else
        match inIter env fuel (svAt sv i) o body i (setSeq (svAt sv i) st) with
        | (.ok p, st2) =>
          (match inLoop env fuel (svAt sv i) o body (i + 1) st2 with
           | (.ok ps, st3) => (.ok (p :: ps), st3)
           | r => r)
        | (.raise e, st2) => (.raise e, st2)
        | (.ret v, st2) => (.ret v, st2)
        | (.oom, st2) => (.oom, st2) := by
  simp only [inLoop, svAt, setSeq, itemDenied_noguard env sv i hg, startedAt_noguard env o sv i hg, hg]
  rfl

theorem svAt_items (sv : SeqVars) (i : Nat) : (svAt sv i).items = sv.items := rfl

/-- **Once per element**: a loop that completes from element `i` has rendered the body exactly
once for each of the elements `i … n-1` (one result per element, in order) -/
theorem in_once_per_element (env : Env) (hg : env.guardOn = false) : ∀ (fuel : Nat) (sv : SeqVars) (o : InOpts) (body : List Blk) (i : Nat)
    (st st' : St) (ps : List Piece),
    inLoop env fuel sv o body i st = (.ok ps, st') → ps.length = sv.items.length - i := by
  intro fuel
  induction fuel with
  | zero => intro sv o body i st st' ps h; simp [inLoop_zero] at h
  | succ n ih =>
    intro sv o body i st st' ps h
    rw [inLoop_succ, itemDenied_noguard env sv i hg] at h
    split at h
    next hge =>
      cases h
      exact (Nat.sub_eq_zero_of_le hge).symm
    next =>
      obtain ⟨p, s, -, h⟩ := andThen_eq_ok.mp h
      obtain ⟨qs, s2, hl, h⟩ := andThen_eq_ok.mp h
      cases h
      have := ih _ o body (i + 1) _ _ qs hl
      simp only [List.length_cons, this]
      omega

/-- the element rendered at position `i` sees index `i`; `sequence-start` only at the first,
`sequence-end` only at the last element -/
theorem position_flags (sv : SeqVars) (i : Nat) (h0 : sv.ended = false) (hi : i < sv.items.length) :
    (svAt sv i).index = i ∧ ((svAt sv i).started = true ↔ i = 0) ∧
    ((svAt sv i).ended = true ↔ i = sv.items.length - 1) := by
  refine ⟨rfl, ?_, ?_⟩
  · simp [svAt]
  · simp only [svAt, h0, Bool.false_or, beq_iff_eq]; omega

/-- the `ended` flag stays false until the last element: the loop's variables at `i+1` are
computed from those at `i` exactly as from the initial ones -/
theorem svAt_svAt (sv : SeqVars) (i j : Nat) (h0 : sv.ended = false) (hi : i + 1 < sv.items.length) :
    svAt (svAt sv i) j = svAt sv j := by
  have : (i + 1 == sv.items.length) = false := by simp; omega
  simp [svAt, h0, this]

/-- the fixed-name variables, in terms of the element's position `sv.index` in the whole sequence -/
theorem seqvar_values (sv : SeqVars) :
    seqFixed sv "index".toList = some (.int sv.index) ∧
    seqFixed sv "number".toList = some (.int (sv.index + 1)) ∧
    seqFixed sv "letter".toList = some (.str [Char.ofNat (97 + sv.index)]) ∧
    seqFixed sv "Letter".toList = some (.str [Char.ofNat (65 + sv.index)]) ∧
    seqFixed sv "even".toList = some (.bool (sv.index % 2 == 0)) ∧
    seqFixed sv "odd".toList = some (.int (sv.index % 2)) ∧
    seqFixed sv "start".toList = some (.int (if sv.started then 1 else 0)) ∧
    seqFixed sv "end".toList = some (.int (if sv.ended then 1 else 0)) ∧
    seqFixed sv "length".toList = some (.int sv.items.length) ∧
    seqFixed sv "item".toList = some (seqItem sv sv.index) := by
  -- which branch of the table a name takes: the literals are compared as strings (`String.reduceEq`)
  simp only [seqFixed, String.toList_inj, String.reduceEq, ↓reduceIte, letterOf, and_self]

/-- the two numeral entries of the table, whatever the position (beyond 4999 there is no numeral: `toRoman` of the source raises) -/
theorem seqFixed_roman (sv : SeqVars) :
    seqFixed sv "Roman".toList = (if sv.index + 1 < 5000 then some (.str (toRoman (sv.index + 1))) else none) ∧
    seqFixed sv "roman".toList =
      (if sv.index + 1 < 5000 then some (.str ((toRoman (sv.index + 1)).map Char.toLower)) else none) := by
  simp only [seqFixed, String.toList_inj, String.reduceEq, ↓reduceIte, and_self]

theorem seqvar_roman (sv : SeqVars) (h : sv.index + 1 < 5000) :
    seqFixed sv "Roman".toList = some (.str (toRoman (sv.index + 1))) ∧
    seqFixed sv "roman".toList = some (.str ((toRoman (sv.index + 1)).map Char.toLower)) := by
  simpa only [if_pos h] using seqFixed_roman sv

/-- `sequence-item` is the element; when the element is a 2-tuple, `sequence-key` / `sequence-item` are its two halves -/
theorem item_and_key (sv : SeqVars) (k v x : Val) :
    (sv.items[sv.index]? = some (.tuple [k, v]) → seqItem sv sv.index = v ∧ seqKeyRes sv = match (SeqRes.val k) with | r => r) ∧
    (sv.items[sv.index]? = some x → (∀ a b, x ≠ .tuple [a, b]) → seqItem sv sv.index = x) := by
  constructor
  · intro h
    simp [seqItem, seqKeyRes, h]
  · intro h hx
    simp only [seqItem, h]

/-- **through the namespace**: `sequence-<name>` resolves to the fixed-name variable -/
theorem lookup_sequence_name (sv : SeqVars) (suffix : Text)
    (h1 : stripPrefix "sequence-var-".toList ("sequence-".toList ++ suffix) = none)
    (hk : suffix ≠ "key".toList) :
    seqLookup sv ("sequence-".toList ++ suffix) = ofOpt (seqFixed sv suffix) := by
  rw [seqLookup, h1]
  simp only [stripPrefix_append, hk, if_false]

/-- **sequence-var-x is the element's x** (attribute, or key with `mapping`) -/
theorem lookup_sequence_var (sv : SeqVars) (x : Text) :
    seqLookup sv ("sequence-var-".toList ++ x) = ofOpt (seqValue sv sv.index x) := by
  rw [seqLookup, stripPrefix_append]

theorem sequence_var_attr (sv : SeqVars) (x : Text) (id : Nat) (attrs : List (Text × Val))
    (h : seqItem sv sv.index = .obj id attrs) (hm : sv.mapping = false) :
    seqValue sv sv.index x = attrs.lookup x := by
  simp [seqValue, h, hm]

theorem sequence_var_key (sv : SeqVars) (x : Text) (kvs : List (Text × Val))
    (h : seqItem sv sv.index = .dict kvs) (hm : sv.mapping = true) :
    seqValue sv sv.index x = kvs.lookup x := by
  simp [seqValue, h, hm]

/-- **first-x / last-x**: for an element that is not the first (last) displayed one, true exactly
when its x differs from the previous (next) element's x -/
theorem first_last_spec (sv : SeqVars) (x : Text) (j : Nat) (a b : Val)
    (ha : seqValueStrict sv sv.index x = .val a) (hb : seqValueStrict sv j x = .val b) :
    neighbourDiffers sv j x = (match SeqRes.val (.bool (!(valBeq 3 a b))) with | r => r) := by
  simp [neighbourDiffers, ha, hb]

theorem lookup_first (sv : SeqVars) (x : Text)
    (h1 : stripPrefix "sequence-var-".toList ("first-".toList ++ x) = none)
    (h2 : stripPrefix "sequence-".toList ("first-".toList ++ x) = none) :
    seqLookup sv ("first-".toList ++ x) =
      if sv.started then .val (.int 1) else neighbourDiffers sv (sv.index - 1) x := by
  rw [seqLookup, h1, h2]
  simp only [stripPrefix_append]

theorem lookup_last (sv : SeqVars) (x : Text)
    (h1 : stripPrefix "sequence-var-".toList ("last-".toList ++ x) = none)
    (h2 : stripPrefix "sequence-".toList ("last-".toList ++ x) = none)
    (h3 : stripPrefix "first-".toList ("last-".toList ++ x) = none) :
    seqLookup sv ("last-".toList ++ x) =
      if sv.ended then .val (.int 1) else neighbourDiffers sv (sv.index + 1) x := by
  rw [seqLookup, h1, h2, h3]
  simp only [stripPrefix_append]

/-- **prefix=p**: `p_<name>` is the same variable as `sequence-<name>` -/
theorem prefix_alias (sv : SeqVars) (p suffix : Text) (hp : sv.prefix_ = some p)
    (h1 : stripPrefix "sequence-var-".toList (p ++ '_' :: suffix) = none)
    (h2 : stripPrefix "sequence-".toList (p ++ '_' :: suffix) = none)
    (h3 : stripPrefix "first-".toList (p ++ '_' :: suffix) = none)
    (h4 : stripPrefix "last-".toList (p ++ '_' :: suffix) = none)
    (h5 : stripPrefix "sequence-var-".toList ("sequence-".toList ++ suffix) = none) :
    seqLookup sv (p ++ '_' :: suffix) = seqLookup sv ("sequence-".toList ++ suffix) := by
  have hpp : stripPrefix (p ++ ['_']) (p ++ '_' :: suffix) = some suffix := by
    have : p ++ '_' :: suffix = (p ++ ['_']) ++ suffix := by simp
    rw [this, stripPrefix_append]
  rw [seqLookup, seqLookup, h1, h2, h3, h4, h5]
  simp only [hp, hpp, stripPrefix_append]

/-- **The else body is rendered exactly when the sequence is empty** -/
theorem else_iff_empty (env : Env) (fuel : Nat) (src : Src) (o : InOpts) (body e : List Blk) (st st' : St)
    (xs : List Val) (h : evalSrc env fuel src st = (.ok (.list xs), st')) :
    (xs = [] → renderBlk env (fuel + 1) (.in_ src o body (some e)) st = oneRes (renderJoined env fuel e st')) ∧
    (xs ≠ [] → ∀ e', renderBlk env (fuel + 1) (.in_ src o body (some e)) st =
                      renderBlk env (fuel + 1) (.in_ src o body e') st) := by
  constructor
  · intro hx
    subst hx
    unfold renderBlk
    simp only [h]
  · intro hx e'
    cases xs with
    | nil => exact (hx rfl).elim
    | cons a t =>
      unfold renderBlk
      simp only [h]

/-- **Element attributes are visible in the body unless no_push_item is given**: the body of
element `i` runs with the element on top of the namespace (as an instance, or as a mapping
with `mapping`), and with nothing pushed under no_push_item -/
theorem item_pushed (env : Env) (fuel : Nat) (sv : SeqVars) (o : InOpts) (body : List Blk) (i : Nat) (st : St)
    (id : Nat) (attrs : List (Text × Val)) (hitem : sv.items[i]? = some (.obj id attrs)) :
    (o.noPush = true → inIter env (fuel + 1) sv o body i st = renderJoined env fuel body st) ∧
    (o.noPush = false → o.mapping = false →
      inIter env (fuel + 1) sv o body i st = framed env fuel (.inst (.obj id attrs) []) body st) := by
  constructor
  · intro h; simp [inIter, h]
  · intro h hm; simp [inIter, h, hm, seqItem, hitem]

/-- **Nothing the tag binds remains visible after its end tag** (C08) -/
theorem in_scope_ends (env : Env) (fuel : Nat) (src : Src) (o : InOpts) (body : List Blk) (els : Option (List Blk)) (st : St) :
    (renderBlk env fuel (.in_ src o body els) st).2.stack.map C08.erase = st.stack.map C08.erase :=
  (C08.block_preserves_stack env fuel (.in_ src o body els) st).1

def romanVal (c : Char) : Nat :=
  if c = 'M' then 1000 else if c = 'D' then 500 else if c = 'C' then 100 else if c = 'L' then 50
  else if c = 'X' then 10 else if c = 'V' then 5 else if c = 'I' then 1 else 0

/-- value of a numeral: a symbol smaller than its right neighbour is subtracted -/
def fromRoman : Text → Nat
  | [] => 0
  | [c] => romanVal c
  | c :: d :: t => if romanVal c < romanVal d then fromRoman (d :: t) - romanVal c else romanVal c + fromRoman (d :: t)

/-- the greedy loop of `toRoman`, entry by entry -/
private def greedy : List (Nat × Text) → Nat → Text
  | [], _ => []
  | (v, s) :: tbl, n => (List.replicate (n / v) s).flatten ++ greedy tbl (n % v)

private theorem toRoman_eq_greedy (n : Nat) : toRoman n = greedy romanTable n := by
  have h : ∀ (tbl : List (Nat × Text)) (acc : Text) (n : Nat),
      (tbl.foldl (fun (acc : Text × Nat) (e : Nat × Text) =>
        (acc.1 ++ (List.replicate (acc.2 / e.1) e.2).flatten, acc.2 % e.1)) (acc, n)).1 = acc ++ greedy tbl n := by
    intro tbl
    induction tbl with
    | nil => intro acc n; simp [greedy]
    | cons e tbl ih => intro acc n; simp [greedy, ih]
  simpa [toRoman] using h romanTable [] n

/-- value of the first symbol (0 for the empty numeral) -/
private def headVal : Text → Nat
  | [] => 0
  | c :: _ => romanVal c

private theorem fromRoman_cons (c : Char) (t : Text) (h : headVal t ≤ romanVal c) :
    fromRoman (c :: t) = romanVal c + fromRoman t := by
  cases t with
  | nil => rfl
  | cons d t => exact if_neg (Nat.not_lt.mpr h)

/-- a symbol repeated before a numeral that starts with nothing larger adds its value each time -/
private theorem fromRoman_replicate (c : Char) (t : Text) (h : headVal t ≤ romanVal c) : ∀ k : Nat,
    fromRoman (List.replicate k c ++ t) = k * romanVal c + fromRoman t ∧
      headVal (List.replicate k c ++ t) ≤ romanVal c
  | 0 => by simpa using h
  | k + 1 => by
    obtain ⟨i1, i2⟩ := fromRoman_replicate c t h k
    rw [List.replicate_succ, List.cons_append, fromRoman_cons _ _ i2, i1, Nat.succ_mul]
    exact ⟨by omega, Nat.le_refl _⟩

/-- a table the greedy loop reads back correctly below `b`: a numeral is one symbol worth `v` (repeated at will), or a
smaller symbol before a larger one, worth the difference and used at most once (`b ≤ 2 * v`); `v` bounds what is left -/
private def okTable : Nat → List (Nat × Text) → Bool
  | b, [] => b ≤ 1
  | _, (v, [c]) :: tbl => 0 < v && romanVal c == v && okTable v tbl
  | b, (v, [c, d]) :: tbl => 0 < v && romanVal c + v == romanVal d && romanVal c ≤ v && b ≤ 2 * v && okTable v tbl
  | _, _ => false

/-- the invariant carried down the table: what is written so far is read back as its number, and starts with a symbol
no larger than that number - so the numeral of a larger entry can stand in front of it -/
private theorem greedy_value : ∀ (tbl : List (Nat × Text)) (b : Nat), okTable b tbl = true → ∀ n, n < b →
    fromRoman (greedy tbl n) = n ∧ headVal (greedy tbl n) ≤ n
  | [], b, hok, n, hn => by
    have : n = 0 := by simp [okTable] at hok; omega
    subst this; exact ⟨rfl, Nat.le_refl _⟩
  | (v, [c]) :: tbl, b, hok, n, hn => by
    simp only [okTable, Bool.and_eq_true, decide_eq_true_eq, beq_iff_eq] at hok
    obtain ⟨⟨hv, hc⟩, hok⟩ := hok
    obtain ⟨i1, i2⟩ := greedy_value tbl v hok (n % v) (Nat.mod_lt _ hv)
    have hm := Nat.mod_lt n hv
    obtain ⟨r1, r2⟩ := fromRoman_replicate c (greedy tbl (n % v)) (by omega) (n / v)
    rw [greedy, List.flatten_replicate_singleton, r1, i1, hc, Nat.div_add_mod']
    refine ⟨rfl, ?_⟩
    rcases Nat.lt_or_ge n v with h | h
    · rw [Nat.div_eq_of_lt h, Nat.mod_eq_of_lt h] at *; simpa using i2
    · omega
  | (v, [c, d]) :: tbl, b, hok, n, hn => by
    simp only [okTable, Bool.and_eq_true, decide_eq_true_eq, beq_iff_eq] at hok
    obtain ⟨⟨⟨⟨hv, hd⟩, hc⟩, hb⟩, hok⟩ := hok
    rcases Nat.lt_or_ge n v with h | h
    · rw [greedy, Nat.div_eq_of_lt h, Nat.mod_eq_of_lt h]
      exact greedy_value tbl v hok n h
    · -- `v ≤ n < 2 * v`: the pair is written once and `n - v < v` is left; all the arithmetic of the step comes first
      have ⟨hlo, hhi, hlt, hcd, hvd, hval⟩ : 1 * v ≤ n ∧ n < (1 + 1) * v ∧ n - v < v ∧ romanVal c < romanVal d ∧
          v ≤ romanVal d ∧ romanVal d + (n - v) - romanVal c = n := by omega
      have hm : n % v = n - v := by rw [Nat.mod_eq_sub_mod h, Nat.mod_eq_of_lt hlt]
      obtain ⟨i1, i2⟩ := greedy_value tbl v hok (n - v) hlt
      have e : fromRoman (c :: d :: greedy tbl (n - v)) = fromRoman (d :: greedy tbl (n - v)) - romanVal c := if_pos hcd
      rw [greedy, Nat.div_eq_of_lt_le hlo hhi, hm, List.replicate_one, List.flatten_singleton, List.cons_append, List.cons_append,
        List.nil_append, e, fromRoman_cons _ _ (Nat.le_trans i2 (Nat.le_trans (Nat.le_of_lt hlt) hvd)), i1]
      exact ⟨hval, Nat.le_trans hc h⟩
  | (_, []) :: _, _, hok, _, _ => by simp [okTable] at hok
  | (_, _ :: _ :: _ :: _) :: _, _, hok, _, _ => by simp [okTable] at hok

/-- `toRoman` denotes the number, whatever its size (beyond 3999 the numeral only grows more `M`s) -/
theorem fromRoman_toRoman (n : Nat) : fromRoman (toRoman n) = n := by
  have ok : okTable 0 romanTable = true := by decide
  rw [toRoman_eq_greedy]
  exact (greedy_value romanTable (n + 1) ok n (Nat.lt_succ_self n)).1

/-- **sequence-Roman denotes the number**, for every position the numeral system covers -/
theorem roman_denotes : (List.range 5000).all (fun n => fromRoman (toRoman n) == n) = true :=
  List.all_eq_true.mpr fun n _ => beq_iff_eq.mpr (fromRoman_toRoman n)

set_option linter.unusedVariables false in
theorem roman_value (n : Nat) (h : n < 5000) : fromRoman (toRoman n) = n := fromRoman_toRoman n

/-! two concrete renderings, evaluated in the kernel -/

section Example
private def okPieces : Res (List Piece) → Option (List Piece)
  | .ok ps => some ps
  | _ => none
private def items : Val := .list [.obj 1 [("x".toList, .int 5)], .obj 2 [("x".toList, .int 5)], .obj 3 [("x".toList, .int 6)]]
set_option maxHeartbeats 4000000 in
example : okPieces (renderBlk {} 40 (.in_ (.name "seq".toList) {} [.var (.name "sequence-number".toList) false none none,
      .var (.name "x".toList) false none none, .lit ";".toList] none)
    { stack := [.dict [("seq".toList, items)]] }).1 = some [.text "15;25;36;".toList] := by decide +kernel
set_option maxHeartbeats 4000000 in
example : okPieces (renderBlk {} 40 (.in_ (.name "seq".toList) {} [.var (.name "first-x".toList) false none none,
      .var (.name "sequence-Roman".toList) false none none, .lit ";".toList] none)
    { stack := [.dict [("seq".toList, items)]] }).1 = some [.text "1I;FalseII;TrueIII;".toList] := by decide +kernel
end Example

/-! #### batched loops (`renderwb`): the window is visited once per element, with the batch variables

`Blk.inx_` with batch parameters → `inBatch` / `inLoopB`; the window comes from `Batch.window` (C11's model), so C11's
theorems about windows and links apply to what the interpreter renders. -/

namespace Batched

/-- the variables element `i` of the window sees -/
def svB (sv : SeqVars) (w : BWin) (i : Nat) : SeqVars := { batchStep sv w i with index := i }

/-- **The batched loop's step rule** (no item guard installed): nothing at or past the end of the window; otherwise
element `i` is rendered once with the variables of position `i`, then the loop continues with `i + 1` and
`sequence-start` cleared once the first element of the window has been rendered -/
theorem inLoopB_rule (env : Env) (hg : env.guardOn = false) (fuel : Nat) (sv : SeqVars) (o : InOpts) (w : BWin)
    (body : List Blk) (i : Nat) (st : St) :
    inLoopB env (fuel + 1) sv o w body i st =
      if i ≥ w.stop then (.ok [], st)
      else
        match inIter env fuel (svB sv w i) o body i (setSeq (svB sv w i) st) with
        | (.ok p, st2) =>
          (match inLoopB env fuel (afterItem (svB sv w i) w i) o w body (i + 1) st2 with
           | (.ok ps, st3) => (.ok (p :: ps), st3)
           | r => r)
        | (.raise e, st2) => (.raise e, st2)
        | (.ret v, st2) => (.ret v, st2)
        | (.oom, st2) => (.oom, st2) := by
  simp only [inLoopB, svB, setSeq, itemDenied_noguard env _ i hg, hg]
  rfl

/-- **Once per element of the window**: a batched loop that completes from element `i` has rendered the body exactly
once for each of the elements `i … stop-1` -/
theorem once_per_window_element (env : Env) (hg : env.guardOn = false) : ∀ (fuel : Nat) (sv : SeqVars) (o : InOpts) (w : BWin)
    (body : List Blk) (i : Nat) (st st' : St) (ps : List Piece),
    inLoopB env fuel sv o w body i st = (.ok ps, st') → ps.length = w.stop - i := by
  intro fuel
  induction fuel with
  | zero => intro sv o w body i st st' ps h; simp [inLoopB_zero] at h
  | succ n ih =>
    intro sv o w body i st st' ps h
    rw [inLoopB_succ] at h
    simp only [itemDenied_noguard env _ i hg] at h
    split at h
    next hge =>
      cases h
      exact (Nat.sub_eq_zero_of_le hge).symm
    next =>
      obtain ⟨p, s, -, h⟩ := andThen_eq_ok.mp h
      obtain ⟨qs, s2, hl, h⟩ := andThen_eq_ok.mp h
      cases h
      have := ih _ o w body (i + 1) _ _ qs hl
      simp only [List.length_cons, this]
      omega

/-- **Position flags inside the window**: the element rendered at position `i` sees index `i` (its position in the
whole sequence); `sequence-end` exactly on the last element of the window; `sequence-start` is whatever the loop
carries, i.e. set until the first element of the window has been rendered (`afterItem`) -/
theorem window_flags (sv : SeqVars) (w : BWin) (i : Nat) (h0 : sv.ended = false) :
    (svB sv w i).index = i ∧ (svB sv w i).items = sv.items ∧ (svB sv w i).started = sv.started ∧
    ((svB sv w i).ended = true ↔ i + 1 = w.stop) := by
  have h := batchStep_fields sv w i
  unfold svB
  refine ⟨rfl, h.1, h.2.1, ?_⟩
  show (batchStep sv w i).ended = true ↔ i + 1 = w.stop
  rw [h.2.2, h0]
  simp

/-- `sequence-start` through the window: set on the first element, cleared afterwards -/
theorem start_cleared (sv : SeqVars) (w : BWin) (i : Nat) :
    (afterItem sv w i).started = (sv.started && !(i == w.first)) := by
  unfold afterItem
  cases i == w.first <;> simp

/-- **The rendered window is C11's window**: for a non-empty sequence and `orphan ≥ 0`, the loop of a batched
dtml-in starts at element `start` and stops after element `end` of `Batch.window` (1-based), which lies inside the
sequence (`C11.opt_window`) — so `end - start + 1` elements are rendered -/
theorem window_is_batch_window (bp : BatchP) (len : Nat) (hl : 1 ≤ len) (ho : 0 ≤ bp.orphan) :
    let w := Batch.window bp.start bp.end_ bp.size bp.orphan ⟨len, false⟩
    ((bwinOf bp len).first : Int) = w.1 - 1 ∧ ((bwinOf bp len).stop : Int) = w.2.1 ∧
    (bwinOf bp len).first < (bwinOf bp len).stop ∧ (bwinOf bp len).stop ≤ len := by
  have h := C11.opt_window bp.start bp.end_ bp.size bp.orphan ⟨len, false⟩ (by show (1 : Int) ≤ (len : Int); omega) ho
  simp only at h ⊢
  simp only [bwinOf]
  omega

/-- the number of elements a completed batched loop has rendered: `end - start + 1` of the window -/
theorem batched_count (env : Env) (hg : env.guardOn = false) (fuel : Nat) (sv : SeqVars) (o : InOpts) (bp : BatchP)
    (len : Nat) (hl : 1 ≤ len) (ho : 0 ≤ bp.orphan) (body : List Blk) (st st' : St) (ps : List Piece)
    (h : inLoopB env fuel sv o (bwinOf bp len) body (bwinOf bp len).first st = (.ok ps, st')) :
    (ps.length : Int) =
      (Batch.window bp.start bp.end_ bp.size bp.orphan ⟨len, false⟩).2.1 -
      (Batch.window bp.start bp.end_ bp.size bp.orphan ⟨len, false⟩).1 + 1 := by
  have hc := once_per_window_element env hg fuel sv o (bwinOf bp len) body _ st st' ps h
  have hw := window_is_batch_window bp len hl ho
  omega

/-- **a stored batch variable is found under its name** (with or without `prefix=`: the prefixed copy has another
name, since batch variable names contain no underscore) -/
theorem get_set_same (sv : SeqVars) (n : Render.Text) (v : Val) (hn : '_' ∉ n) : seqGet (sv.set n v) n = .val v :=
  seqGet_of_extra _ _ _ (extra_lookup_set_self sv n v hn)

/-- **with `prefix=p` the same value is also found under the prefixed name** (`previous-sequence` ↦
`p_previous-sequence`, `sequence-step-size` ↦ `p_step_size`) -/
theorem get_set_alias (sv : SeqVars) (p n : Render.Text) (v : Val) (hp : sv.prefix_ = some p) :
    seqGet (sv.set n v) (prefixAlias p n) = .val v := by
  apply seqGet_of_extra
  unfold SeqVars.set
  simp only [hp, lookup_setKV_self]

/-- **The previous batch as announced** (on the first element of a window that has predecessors, and by the
`previous` form of the tag): previous-sequence is 1 and the -start-index / -end-index / -size variables describe
`opt(0, start - 1 + overlap, size, orphan)` — C11's `links.prevStart / prevEnd` -/
theorem prev_vars (sv : SeqVars) (w : BWin) :
    seqGet (prevInfo sv w true) (txt "previous-sequence") = .val (.int 1) ∧
    (∀ f, seqGet (prevInfo sv w f) (txt "previous-sequence-start-index") =
      .val (.int ((Batch.opt 0 (w.first + w.overlap) w.sz w.orphan ⟨sv.items.length, false⟩).1 - 1))) ∧
    (∀ f, seqGet (prevInfo sv w f) (txt "previous-sequence-end-index") =
      .val (.int ((Batch.opt 0 (w.first + w.overlap) w.sz w.orphan ⟨sv.items.length, false⟩).2.1 - 1))) ∧
    (∀ f, seqGet (prevInfo sv w f) (txt "previous-sequence-size") =
      .val (.int ((Batch.opt 0 (w.first + w.overlap) w.sz w.orphan ⟨sv.items.length, false⟩).2.1 + 1 -
                  (Batch.opt 0 (w.first + w.overlap) w.sz w.orphan ⟨sv.items.length, false⟩).1))) := by
  unfold prevInfo txt
  -- the four names as lists of characters, read off the literals (`"ab"` is `String.ofList ['a', 'b']` as it stands): what is
  -- left to decide is about those lists, and the kernel need not decode `"ab".toList`, which is far dearer
  rw [String.toList_ofList, String.toList_ofList, String.toList_ofList, String.toList_ofList]
  exact seqGet_stored_four sv (by decide +kernel) (by decide +kernel)

/-- **The next batch as announced** (on the last element of a window that has successors, and by the `next` form):
next-sequence is 1 and the variables describe `opt(end + 1 - overlap, 0, size, orphan)` — C11's
`links.nextStart / nextEnd` -/
theorem next_vars (sv : SeqVars) (w : BWin) :
    seqGet (nextInfo sv w true) (txt "next-sequence") = .val (.int 1) ∧
    (∀ f, seqGet (nextInfo sv w f) (txt "next-sequence-start-index") =
      .val (.int ((Batch.opt (w.stop + 1 - w.overlap) 0 w.sz w.orphan ⟨sv.items.length, false⟩).1 - 1))) ∧
    (∀ f, seqGet (nextInfo sv w f) (txt "next-sequence-end-index") =
      .val (.int ((Batch.opt (w.stop + 1 - w.overlap) 0 w.sz w.orphan ⟨sv.items.length, false⟩).2.1 - 1))) ∧
    (∀ f, seqGet (nextInfo sv w f) (txt "next-sequence-size") =
      .val (.int ((Batch.opt (w.stop + 1 - w.overlap) 0 w.sz w.orphan ⟨sv.items.length, false⟩).2.1 + 1 -
                  (Batch.opt (w.stop + 1 - w.overlap) 0 w.sz w.orphan ⟨sv.items.length, false⟩).1))) := by
  unfold nextInfo txt
  rw [String.toList_ofList, String.toList_ofList, String.toList_ofList, String.toList_ofList]
  exact seqGet_stored_four sv (by decide +kernel) (by decide +kernel)

/-- the announced neighbours are C11's links of the window `start = first + 1`, `end = stop` -/
theorem vars_are_links (w : BWin) (len : Nat) :
    (Batch.links (w.first + 1) w.stop w.sz w.orphan w.overlap ⟨len, false⟩).prevStart =
      (Batch.opt 0 (w.first + w.overlap) w.sz w.orphan ⟨len, false⟩).1 ∧
    (Batch.links (w.first + 1) w.stop w.sz w.orphan w.overlap ⟨len, false⟩).prevEnd =
      (Batch.opt 0 (w.first + w.overlap) w.sz w.orphan ⟨len, false⟩).2.1 ∧
    (Batch.links (w.first + 1) w.stop w.sz w.orphan w.overlap ⟨len, false⟩).nextStart =
      (Batch.opt (w.stop + 1 - w.overlap) 0 w.sz w.orphan ⟨len, false⟩).1 ∧
    (Batch.links (w.first + 1) w.stop w.sz w.orphan w.overlap ⟨len, false⟩).nextEnd =
      (Batch.opt (w.stop + 1 - w.overlap) 0 w.sz w.orphan ⟨len, false⟩).2.1 := by
  have h : ((w.first : Int) + 1 - 1 + w.overlap) = (w.first : Int) + w.overlap := by omega
  simp only [Batch.links, h, and_self]

/-- **Nothing a batched dtml-in binds remains visible after its end tag** (C08), whatever the options -/
theorem inx_scope_ends (env : Env) (fuel : Nat) (src : Src) (o : InOpts) (x : InXOpts) (body : List Blk)
    (els : Option (List Blk)) (st : St) :
    (renderBlk env fuel (.inx_ src o x body els) st).2.stack.map C08.erase = st.stack.map C08.erase ∧
    (renderBlk env fuel (.inx_ src o x body els) st).2.level = st.level :=
  C08.block_preserves_stack env fuel (.inx_ src o x body els) st

/-- **`start` by name never fails**: when looking the variable up raises (undefined name, a callable that raises),
`renderwb` takes 1 and goes on with the remaining parameters -/
theorem start_by_name_failure_is_one (env : Env) (fuel : Nat) (n : Render.Text) (rest : List (Render.Text × Render.Text))
    (bp : BatchP) (bad : Bool) (st st' : St) (e : Exc) (h : getitem env fuel n true st = (.raise e, st')) :
    resolveNames env (fuel + 1) (("start".toList, n) :: rest) bp bad st =
      resolveNames env fuel rest { bp with start := 1 } bad st' := by
  simp only [resolveNames, h, setParam]
  rfl

/-- for a parameter other than `start` given by name the failure of the lookup propagates (here: `size`) -/
theorem size_by_name_failure_propagates (env : Env) (fuel : Nat) (n : Render.Text) (rest : List (Render.Text × Render.Text))
    (bp : BatchP) (bad : Bool) (st st' : St) (e : Exc) (h : getitem env fuel n true st = (.raise e, st')) :
    resolveNames env (fuel + 1) (("size".toList, n) :: rest) bp bad st = (.raise e, st') := by
  simp only [resolveNames, h]
  rfl

/-- a number is taken as it is, a numeral string is converted (`int_param`) -/
theorem param_by_name_value (env : Env) (fuel : Nat) (n : Render.Text) (rest : List (Render.Text × Render.Text))
    (bp : BatchP) (bad : Bool) (st st' : St) (i : Int) (h : getitem env fuel n true st = (.ok (.int i), st')) :
    resolveNames env (fuel + 1) (("size".toList, n) :: rest) bp bad st =
      resolveNames env fuel rest { bp with size := i } bad st' := by
  simp only [resolveNames, h, paramInt, setParam]
  rfl

example : (match paramInt (.str "12".toList) with | .ok i => i | _ => -1) = 12 := by decide
example : (match paramInt (.str "x".toList) with | .valueError => true | _ => false) = true := by decide

/-! ##### non-vacuity: two concrete batched renderings, evaluated in the kernel (five elements, start=2 size=2; the second
as a `previous` tag) -/
section Example
private def okText : Res (List Piece) → Option (List Piece)
  | .ok ps => some ps
  | _ => none
private def five : Val := .list [.int 10, .int 20, .int 30, .int 40, .int 50]
private def v (n : String) : Blk := .var (.name n.toList) false none none
set_option maxHeartbeats 4000000 in
example : okText (renderBlk {} 60 (.inx_ (.name "seq".toList) {} { batch := some { start := 2, size := 2 } }
      [v "sequence-number", .lit ":".toList, v "previous-sequence", .lit ":".toList, v "next-sequence", .lit ":".toList,
       v "next-sequence-start-number", .lit ";".toList] none)
    { stack := [.dict [("seq".toList, five)]] }).1 = some [.text "2:1:0:4;3:0:1:4;".toList] := by decide +kernel
set_option maxHeartbeats 4000000 in
example : okText (renderBlk {} 60 (.inx_ (.name "seq".toList) {} { batch := some { start := 2, size := 2, previous := true } }
      [v "previous-sequence-start-number", .lit "-".toList, v "previous-sequence-end-number", .lit ";".toList]
      (some [.lit "none".toList]))
    { stack := [.dict [("seq".toList, five)]] }).1 = some [.text "1-1;".toList] := by decide +kernel
end Example

end Batched

/-! ### The per-item pushes rest on the instance lookup of the source (regenerated on every run, proved in Props/C02) -/
theorem gen_item_lookup_is_model (env : Env) (v : Val) (cache : List (Text × Val)) (key : Text) (tr : List Event) :
    GenNs.instGetitemGen env v cache key tr = frameGet env (.inst v cache) key tr :=
  C02.gen_instancedict_getitem_is_model env v cache key tr

/-! ### The loop of `InClass.renderwob`, translated from the source on every run (GenIn.lean), is the interpreter's `inLoop`

The translation keeps `sequence-start` as the source does - a stored flag, cleared after element 0 has been rendered or when
element 1 is skipped as unauthorized - where the interpreter computes it from the refusals (`startedAt`); the hypothesis says
the stored flag is right on entry (it is `true` at index 0: the prologue's fresh `sequence_variables`). -/

section GenLoop
open DTML.Lemmas.InGen

/-- one pass through the body of `for index in range(l_)` (the flags stored, the element fetched - through the item guard when
one is installed -, the tuple convention, what is pushed and popped around `render_blocks(section, md)`, `continue` / the
re-raised ValidationError) is one unfolding of `inLoop`, for every element, namespace and option set -/
theorem gen_in_step_is_model (env : Env) (fuel : Nat) (o : InOpts) (body : List Blk) (sv : SeqVars) (i : Nat) (st : St)
    (hi : i < sv.items.length) (hs : sv.started = startedAt env o sv i) :
    inLoop env (fuel + 1) sv o body i st =
      GenIn.inCont (GenIn.inStepGen env fuel o body sv i st) (fun sv' st' => inLoop env fuel sv' o body (i + 1) st') := by
  rw [inLoop_succ, if_neg (by omega), inStepGen_eq env fuel o body sv i st _ rfl, inCont_pass, ← hs]
  -- what is left: the loop goes on with the stored flags on one side, with the recomputed ones on the other
  refine (loopItem_congr env fuel (fun s => ?_) (fun s => ?_) st).symm
  · have he : i + 1 < sv.items.length → (sv.ended || i + 1 == sv.items.length) = sv.ended := fun h => by
      rw [show (i + 1 == sv.items.length) = false from by simpa using Nat.ne_of_lt h, Bool.or_false]
    split <;> exact inLoop_flags_irrel env o body fuel sv _ _ (i + 1) s he
  · split
    · exact inLoop_flags_irrel env o body fuel { sv with index := i, ended := _ } false _ (i + 1) s fun _ => rfl
    · rfl

set_option linter.unusedVariables false in
/-- a pass hands on the same sequence and the flag the interpreter computes for the next element -/
theorem gen_in_step_keeps_start (env : Env) (fuel : Nat) (o : InOpts) (body : List Blk) (sv : SeqVars) (i : Nat) (st : St)
    (hi : i < sv.items.length) (hs : sv.started = startedAt env o sv i) (sv' : SeqVars)
    (h : Lemmas.InGen.stepVars (GenIn.inStepGen env fuel o body sv i st) = some sv') :
    sv'.items = sv.items ∧ sv'.started = startedAt env o sv' (i + 1) := by
  rw [inStepGen_eq env fuel o body sv i st _ rfl] at h
  rcases stepVars_pass h with ⟨hd, hsk, rfl⟩ | ⟨hd, rfl⟩
  · have hn := startedAt_succ_skip env o sv i hd hsk
    split
    · exact ⟨rfl, (hn.trans (if_pos ‹_›)).symm⟩
    · exact ⟨rfl, hs.trans (hn.trans (if_neg ‹_›)).symm⟩
  · have hn := startedAt_succ_item env o sv i hd
    split
    · exact ⟨rfl, (hn.trans (if_pos ‹_›)).symm⟩
    · exact ⟨rfl, hs.trans (hn.trans (if_neg ‹_›)).symm⟩

/-- the loop as the source runs it (index `i`, `i + 1`, … while `index < l_`, the pieces appended in order) is `inLoop` -/
theorem gen_in_loop_is_model (env : Env) (o : InOpts) (body : List Blk) (fuel : Nat) (sv : SeqVars) (i : Nat) (st : St)
    (hs : sv.started = startedAt env o sv i) :
    GenIn.inLoopGen env fuel o body sv i st = inLoop env fuel sv o body i st := by
  induction fuel generalizing sv i st with
  | zero => rw [GenIn.inLoopGen, inLoop_zero]
  | succ f ih =>
    rcases Nat.lt_or_ge i sv.items.length with hi | hi
    · rw [gen_in_step_is_model env f o body sv i st hi hs, GenIn.inLoopGen, if_pos (by omega)]
      exact inCont_congr _ _ _ fun sv' h st' => ih sv' (i + 1) st' (gen_in_step_keeps_start env f o body sv i st hi hs sv' h).2
    · rw [GenIn.inLoopGen, if_neg (by omega), inLoop_succ, if_pos hi]

/-- non-vacuity of the hypothesis past index 0: with a refused first element that is skipped the flag is still set at element 1 -/
example : startedAt { guardOn := true, deniedItems := [7] } { skipUnauth := true }
    { items := [.obj 7 [], .int 1] } 1 = true := by decide

/-- from the first index of `range(l_)`, on the variables the prologue of dtml-in builds (`renderBlk` on `.in_` / `.inx_`
starts `inLoop` on exactly these: `Render.renderBlk_in`, `renderBlk_inx`) -/
theorem gen_in_loop_from_start (env : Env) (o : InOpts) (body : List Blk) (fuel : Nat) (xs : List Val) (st : St) :
    GenIn.inLoopGen env fuel o body { items := xs, mapping := o.mapping, prefix_ := o.prefix_ } GenIn.inLoopStart st =
      inLoop env fuel { items := xs, mapping := o.mapping, prefix_ := o.prefix_ } o body 0 st :=
  gen_in_loop_is_model env o body fuel _ 0 st rfl

end GenLoop

/-! ### The per-index methods of `sequence_variables` are those of the source

`GenSeqVar.numberGen … lengthGen` are regenerated on every run by translating the methods `number`, `even`, `odd`, `letter`,
`Letter`, `key`, `item`, `Roman`, `roman`, `value`, `first`, `last`, `length` of class `sequence_variables` in /repo statement
by statement (harness/trans_seqvar.py): every expression (`index + 1`, `index % 2 == 0`, `index % 2`, `ord('a') + index`,
`self.items[index][0]`, the 2-tuple test, `data['mapping']`, `index - 1` / `index + 1`, the `sequence-start` /
`sequence-end` short cuts returning 1) stands in the generated text as it stands in the source, over a run-time library of
Python's operations on the model's values.  `roman.toRoman` is third party and stays the model's `toRoman`. -/
section GenSeqVar
open DTML.GenSeqVar DTML.Lemmas.SeqVar

/-- `number`, `even`, `odd`, `length`, `Roman`, `roman` compute what `seqFixed` lists for them, for every index -/
theorem gen_seqvar_arith_is_model (sv : SeqVars) (i : Nat) (v : Val) :
    numberGen sv (.int i) = .ok (.int (i + 1)) ∧
    evenGen sv (.int i) = .ok (.bool (i % 2 == 0)) ∧
    oddGen sv (.int i) = .ok (.int (i % 2)) ∧
    lengthGen sv v = .ok (.int sv.items.length) ∧
    RomanGen sv (.int i) =
      (if i + 1 < 5000 then .ok (.str (toRoman (i + 1))) else .raise (exc "OutOfRangeError")) ∧
    romanGen sv (.int i) =
      (if i + 1 < 5000 then .ok (.str ((toRoman (i + 1)).map Char.toLower)) else .raise (exc "OutOfRangeError")) := by
  have hR : RomanGen sv (.int i) =
      (if i + 1 < 5000 then .ok (.str (toRoman (i + 1))) else .raise (exc "OutOfRangeError")) := by
    simp only [RomanGen, pyLet, pyInt, pyAdd, arith, lit, pyToRoman, bind_ok, asInt_int]
    by_cases hl : i + 1 < 5000
    · rw [if_pos hl, if_pos (by omega), show ((i : Int) + 1).toNat = i + 1 by omega]
    · rw [if_neg hl, if_neg (by omega), if_neg (by omega)]
  refine ⟨add_nat i 1, ?_, mod2 i, rfl, hR, ?_⟩
  · have h : (((i % 2 : Nat) : Int) == 0) = (i % 2 == 0) := by
      rw [Bool.eq_iff_iff, beq_iff_eq, beq_iff_eq]
      omega
    rw [evenGen, mod2]
    exact congrArg (fun b => PyRes.ok (.bool b)) h
  · simp only [romanGen, pyCall1, bind_ok, hR, pyLower]
    split <;> rfl

/-- `letter` / `Letter`: `chr(ord('a') + index)` is `letterOf 97`, `chr(ord('A') + index)` is `letterOf 65`, as long as the
code point exists (beyond `sys.maxunicode` the source raises ValueError) -/
theorem gen_seqvar_letter_is_model (sv : SeqVars) (i : Nat) :
    (97 + i < maxCode → letterGen sv (.int i) = .ok (.str (letterOf 97 i))) ∧
    (65 + i < maxCode → LetterGen sv (.int i) = .ok (.str (letterOf 65 i))) ∧
    (¬ 97 + i < maxCode → letterGen sv (.int i) = .raise (exc "ValueError")) ∧
    (¬ 65 + i < maxCode → LetterGen sv (.int i) = .raise (exc "ValueError")) := by
  have ha : pyOrd (pyStr "a") = .ok (.int (97 : Nat)) := by rfl
  have hA : pyOrd (pyStr "A") = .ok (.int (65 : Nat)) := by rfl
  refine ⟨fun h => ?_, fun h => ?_, fun h => ?_, fun h => ?_⟩
  · rw [letterGen, ha, chr_add, if_pos h]
  · rw [LetterGen, hA, chr_add, if_pos h]
  · rw [letterGen, ha, chr_add, if_neg h]
  · rw [LetterGen, hA, chr_add, if_neg h]

/-- `item`: the element, the second half of a 2-tuple - `seqItem` (an index past the end raises IndexError) -/
theorem gen_seqvar_item_is_model (sv : SeqVars) (i : Nat) :
    itemGen sv (.int i) =
      (match sv.items[i]? with | some _ => .ok (seqItem sv i) | none => .raise (exc "IndexError")) := by
  simp only [itemGen, pyLet, items_at]
  cases h : sv.items[i]? with
  | none => rfl
  | some v => simp only [bind_ok]; exact unwrap_eq sv i v h

/-- `key` = `items[index][0]` is `seqKeyRes` (a KeyError = "not in this frame") -/
theorem gen_seqvar_key_is_model (sv : SeqVars) (h : sv.index < sv.items.length) :
    toSeqRes (keyGen sv (.int sv.index)) = seqKeyRes sv := by
  simp only [keyGen, items_at, seqKeyRes]
  rw [List.getElem?_eq_getElem h]
  cases sv.items[sv.index] with
  | tuple xs => cases xs <;> rfl
  | list xs => cases xs <;> rfl
  | str xs => cases xs <;> rfl
  | bytes xs => cases xs <;> rfl
  | _ => rfl

/-- on a 2-tuple `key` is the model's `seqKey` -/
theorem gen_seqvar_key_is_seqKey (sv : SeqVars) (i : Nat) (k : Val) (h : seqKey sv i = some k) :
    keyGen sv (.int i) = .ok k := by
  simp only [keyGen, items_at]
  unfold seqKey at h
  split at h
  next k' v' hk =>
    cases h
    rw [hk]
    rfl
  next => cases h

/-- `value(index, name)` is `seqValueStrict` (what first-x / last-x compare) for every index inside the sequence -/
theorem gen_seqvar_value_is_model (sv : SeqVars) (i : Nat) (x : Text) (h : i < sv.items.length) :
    toSVal (valueGen sv (.int i) (.str x)) = seqValueStrict sv i x := by
  rw [valueGen_eq_valueOf, List.getElem?_eq_getElem h]
  exact valueOf_strict sv i x

/-- `self.value(…)` inside `try … except Exception: pass` (how `sequence-var-x` reads it) is `seqValue`, for every index -/
theorem gen_seqvar_value_is_seqValue (sv : SeqVars) (i : Nat) (x : Text) :
    optOf (valueGen sv (.int i) (.str x)) = seqValue sv i x := by
  rw [valueGen_eq_valueOf]
  cases hs : sv.items[i]? with
  | none => simp [optOf, seqValue, seqItem, hs]
  | some v => simp only [optOf_toSVal, valueOf_strict, seqValue_of_strict]

/-- the positions the loop produces: an index inside the sequence, a predecessor unless `sequence-start` is set, a
successor unless `sequence-end` is set (decidable) -/
def WellPlaced (sv : SeqVars) : Prop :=
  sv.noIndex = false ∧ sv.index < sv.items.length ∧ (sv.started = false → 1 ≤ sv.index) ∧
    (sv.ended = false → sv.index + 1 < sv.items.length)

instance (sv : SeqVars) : Decidable (WellPlaced sv) := by unfold WellPlaced; infer_instance

/-- every frame the loop sets (`svAt`) is well placed -/
theorem svAt_wellPlaced (sv : SeqVars) (i : Nat) (hn : sv.noIndex = false) (hi : i < sv.items.length) :
    WellPlaced (svAt sv i) := by
  refine ⟨hn, hi, ?_, ?_⟩
  · intro h
    have : i ≠ 0 := by simpa [svAt] using h
    show 1 ≤ i
    omega
  · intro h
    have h2 : i + 1 ≠ sv.items.length := fun e => by simp [svAt, e] at h
    show i + 1 < sv.items.length
    omega

example : WellPlaced { items := [.int 1, .int 2, .int 3], index := 1, started := false, ended := false } := by decide

private theorem neighbours (sv : SeqVars) (x : Text) (i j : Nat) (hi : i < sv.items.length) (hj : j < sv.items.length) :
    toSeqRes (pyNe (pyCall2 (valueGen sv) (.ok (.int i)) (.ok (.str x))) (pyCall2 (valueGen sv) (.ok (.int j)) (.ok (.str x)))) =
      (match seqValueStrict sv i x with
       | .raise e => .raise e
       | .keyMissing => .missing
       | .val a =>
         match seqValueStrict sv j x with
         | .raise e => .raise e
         | .keyMissing => .missing
         | .val b => .val (.bool (!(valBeq 3 a b)))) := by
  rw [← gen_seqvar_value_is_model sv i x hi, ← gen_seqvar_value_is_model sv j x hj, pyCall2, pyCall2, bind_ok, bind_ok, bind_ok,
    bind_ok, pyNe]
  cases valueGen sv (.int i) (.str x) <;> cases valueGen sv (.int j) (.str x) <;> rfl

/-- the common body of `first` and `last`: 1 while the flag of that end is set, else whether the element's `name` differs from
its neighbour's - `nb` is how the source computes the neighbour's index, `j` what that comes to -/
private theorem flag_or_differs (sv : SeqVars) (x : Text) (flag : Bool) (nb : P → P) (j : Nat) (hn : sv.noIndex = false)
    (hi : sv.index < sv.items.length)
    (hj : flag = false → nb (.ok (.int sv.index)) = .ok (.int j) ∧ j < sv.items.length) :
    toSeqRes (pyIf (.ok (.int (if flag then 1 else 0))) (lit 1)
      (pyLet (pyData sv (pyStr "sequence-index")) fun v_index =>
        pyNe (pyCall2 (valueGen sv) (.ok v_index) (.ok (.str x))) (pyCall2 (valueGen sv) (nb (.ok v_index)) (.ok (.str x))))) =
      (if flag then .val (.int 1) else neighbourDiffers sv j x) := by
  cases flag with
  | true => rfl
  | false =>
    obtain ⟨hnb, hj⟩ := hj rfl
    simp only [pyLet, data_index sv hn, bind_ok, hnb]
    exact neighbours sv x sv.index j hi hj

/-- `first(name)`: 1 while `sequence-start` is set, else whether the element's `name` differs from its predecessor's
(`index - 1` of the source) - the `first-` branch of `seqLookup` -/
theorem gen_seqvar_first_is_model (sv : SeqVars) (x : Text) (k : Val) (hw : WellPlaced sv) :
    toSeqRes (firstGen sv (.str x) k) =
      (if sv.started then .val (.int 1) else neighbourDiffers sv (sv.index - 1) x) := by
  obtain ⟨hn, hi, hs, he⟩ := hw
  rw [firstGen, data_start]
  exact flag_or_differs sv x sv.started (pySub · (lit 1)) (sv.index - 1) hn hi fun h => ⟨sub_nat _ 1 (hs h), by omega⟩

/-- `last(name)`: 1 while `sequence-end` is set, else whether the element's `name` differs from its successor's
(`index + 1` of the source) - the `last-` branch of `seqLookup` -/
theorem gen_seqvar_last_is_model (sv : SeqVars) (x : Text) (k : Val) (hw : WellPlaced sv) :
    toSeqRes (lastGen sv (.str x) k) =
      (if sv.ended then .val (.int 1) else neighbourDiffers sv (sv.index + 1) x) := by
  obtain ⟨hn, hi, hs, he⟩ := hw
  rw [lastGen, data_end]
  exact flag_or_differs sv x sv.ended (pyAdd · (lit 1)) (sv.index + 1) hn hi fun h => ⟨rfl, he h⟩

/-- **the fixed-name table of the model is the methods of the source**: for every per-index name of `seqFixed`, its entry
is what the source's method of that name returns for `sequence-index` -/
theorem gen_seqvar_fixed_is_model (sv : SeqVars) (hi : sv.index < sv.items.length) (hc : 97 + sv.index < maxCode) :
    seqFixed sv "number".toList = optOf (numberGen sv (.int sv.index)) ∧
    seqFixed sv "even".toList = optOf (evenGen sv (.int sv.index)) ∧
    seqFixed sv "odd".toList = optOf (oddGen sv (.int sv.index)) ∧
    seqFixed sv "letter".toList = optOf (letterGen sv (.int sv.index)) ∧
    seqFixed sv "Letter".toList = optOf (LetterGen sv (.int sv.index)) ∧
    seqFixed sv "Roman".toList = optOf (RomanGen sv (.int sv.index)) ∧
    seqFixed sv "roman".toList = optOf (romanGen sv (.int sv.index)) ∧
    seqFixed sv "length".toList = optOf (lengthGen sv (.int sv.index)) ∧
    seqFixed sv "item".toList = optOf (itemGen sv (.int sv.index)) := by
  obtain ⟨-, vnum, vlet, vLet, vev, vodd, -, -, vlen, vitem⟩ := seqvar_values sv
  obtain ⟨vRom, vrom⟩ := seqFixed_roman sv
  obtain ⟨h1, h2, h3, h4, h5, h6⟩ := gen_seqvar_arith_is_model sv sv.index (.int sv.index)
  obtain ⟨l1, l2, -, -⟩ := gen_seqvar_letter_is_model sv sv.index
  rw [vnum, vev, vodd, vlet, vLet, vRom, vrom, vlen, vitem, h1, h2, h3, h4, h5, h6, l1 hc, l2 (by omega),
    gen_seqvar_item_is_model, List.getElem?_eq_getElem hi]
  -- both sides are written out; beyond 4999 both numeral entries are empty
  refine ⟨rfl, rfl, rfl, rfl, rfl, ?_, ?_, rfl, rfl⟩
  · split <;> rfl
  · split <;> rfl

end GenSeqVar

/-! ### The loop of `InClass.renderwb` (the batched dtml-in), translated from the source on every run, is `inLoopB`

C11's theorems are about the window `opt` computes; these tie the loop that walks it.  `w` holds the window as the
prologue leaves it (`first` = start - 1, `stop` = end); the hypothesis `w.stop ≤ sv.items.length` is what the prologue
establishes (`window_is_batch_window`, and the clamp `try: sequence[end - 1] except IndexError: end = len(sequence)`): inside
the sequence `seqGetitem` of the translation is `sequence[index]` of the source (past the end it is a default where the source
raises IndexError - the interpreter reads the same default, so the equalities themselves hold on every sequence). -/

/-- what a pass stores before the element is fetched - the presets of previous-sequence / next-sequence, the batching
information on the first and on the last displayed element (the `opt` calls with the arguments of the source, the flags
only on the first / last element, the three derived entries), `sequence-end` - is `batchStep` -/
theorem gen_in_batch_pre_is_model (sv : SeqVars) (w : BWin) (i : Nat) : GenIn.inBatchPreGen sv w i = batchStep sv w i := by
  have e1 : ((i : Int) = (w.first : Int)) ↔ i = w.first := by omega
  have e2 : ((i : Int) = (w.stop : Int) - 1) ↔ i + 1 = w.stop := by omega
  have e3 : ((w.first : Int) > 0) ↔ w.first > 0 := by omega
  simp only [GenIn.inBatchPreGen, batchStep, batchInfo, prevInfo, nextInfo, Lemmas.InBatchGen.seqHas_stop, e1, e2, e3]
  -- what is left differs only in how the tests are written: `==` and `decide` against propositions
  simp only [beq_iff_eq, Bool.or_eq_true]

section GenBatch
open DTML.GenIn DTML.Lemmas.InGen

theorem inLoopB_eq_inBatchStepGen (env : Env) (fuel : Nat) (o : InOpts) (w : BWin) (body : List Blk) (sv : SeqVars) (i : Nat)
    (st : St) (hw : i < w.stop) :
    inLoopB env (fuel + 1) sv o w body i st =
      inCont (inBatchStepGen env fuel o w body sv i st) (fun sv' st' => inLoopB env fuel sv' o w body (i + 1) st') := by
  rw [inLoopB_succ, if_neg (by omega), inBatchStepGen_eq env fuel o w body sv i st _ (gen_in_batch_pre_is_model sv w i).symm,
    inCont_pass]

set_option linter.unusedVariables false in
/-- one pass through the body of `for index in range(first, end)` is one unfolding of `inLoopB` -/
theorem gen_in_batch_step_is_model (env : Env) (fuel : Nat) (o : InOpts) (w : BWin) (body : List Blk) (sv : SeqVars) (i : Nat)
    (st : St) (hw : i < w.stop) (hi : i < sv.items.length) :
    inLoopB env (fuel + 1) sv o w body i st =
      GenIn.inCont (GenIn.inBatchStepGen env fuel o w body sv i st) (fun sv' st' => inLoopB env fuel sv' o w body (i + 1) st') :=
  inLoopB_eq_inBatchStepGen env fuel o w body sv i st hw

theorem inBatchLoopGen_eq_inLoopB (env : Env) (o : InOpts) (w : BWin) (body : List Blk) (fuel : Nat) (sv : SeqVars) (i : Nat)
    (st : St) : inBatchLoopGen env fuel o w body sv i st = inLoopB env fuel sv o w body i st := by
  induction fuel generalizing sv i st with
  | zero => rw [inBatchLoopGen, inLoopB_zero]
  | succ f ih =>
    rcases Nat.lt_or_ge i w.stop with hw | hw
    · rw [inLoopB_eq_inBatchStepGen env f o w body sv i st hw, inBatchLoopGen, if_pos (by omega)]
      exact inCont_congr _ _ _ fun sv' _ st' => ih sv' (i + 1) st'
    · rw [inBatchLoopGen, if_neg (by omega), inLoopB_succ, if_pos hw]

end GenBatch

/-- the loop as the source runs it (index `i`, `i + 1`, … while `index < end`) is `inLoopB` -/
theorem gen_in_batch_loop_is_model (env : Env) (o : InOpts) (w : BWin) (body : List Blk) : ∀ (fuel : Nat) (sv : SeqVars) (i : Nat)
    (st : St), w.stop ≤ sv.items.length →
    GenIn.inBatchLoopGen env fuel o w body sv i st = inLoopB env fuel sv o w body i st :=
  fun fuel sv i st _ => inBatchLoopGen_eq_inLoopB env o w body fuel sv i st

set_option linter.unusedVariables false in
/-- from the first index of `range(first, end)`, on the window `bwinOf` computes for a non-empty sequence -/
theorem gen_in_batch_loop_from_start (env : Env) (o : InOpts) (body : List Blk) (fuel : Nat) (bp : BatchP) (sv : SeqVars) (st : St)
    (hl : 1 ≤ sv.items.length) (ho : 0 ≤ bp.orphan) :
    GenIn.inBatchLoopStart (bwinOf bp sv.items.length) = ((bwinOf bp sv.items.length).first : Int) ∧
    GenIn.inBatchLoopGen env fuel o (bwinOf bp sv.items.length) body sv (bwinOf bp sv.items.length).first st =
      inLoopB env fuel sv o (bwinOf bp sv.items.length) body (bwinOf bp sv.items.length).first st :=
  ⟨rfl, inBatchLoopGen_eq_inLoopB env o _ body fuel sv _ st⟩

/-- the hypotheses are satisfiable: a window inside a five-element sequence -/
example : (bwinOf { start := 2, size := 2 } 5).stop ≤ 5 := by decide

/-! ### The dispatch of `sequence_variables.__getitem__` is that of the source

`GenSeqVar.getitemGen` / `tailGen` are regenerated on every run from `__getitem__` (harness/trans_seqvar.py): the dictionary
first, `key.rfind('-')` and the test `l_ < 0`, the two slices `key[l_ + 1:]` / `key[:l_]`, the alt_prefix branch
(`startswith`, `key[len(alt_prefix):].replace('_', '-')`, `self[suffix]` inside `try … except KeyError`, `'sequence-' +
suffix`), then `hasattr(self, suffix)` with `data[prefix + '-index']`, the table `special_prefixes` (its keys and what each
routes to, the statistics added by the loop), `prefix[-4:] == '-var'` with `self.value(data[prefix + '-index'], suffix)`
inside `try … except Exception`, `sequence-query`, `raise KeyError(key)`. -/
section GenDispatch
open DTML.GenSeqVar DTML.Lemmas.SeqVar

/-- what is asked of literals is asked of their characters: `"ab"` is `String.ofList ['a', 'b']` as it stands, so `h` is about
the characters themselves, where the kernel would have to decode `"ab".toList` - at a far higher price -/
private theorem lits_append {a b c : List Char} (h : a ++ b = c) :
    (String.ofList a).toList ++ (String.ofList b).toList = (String.ofList c).toList := by
  rw [String.toList_ofList, String.toList_ofList, String.toList_ofList, h]

private theorem lits_strip {q p : List Char} {x : Text} (h : stripPrefix q (p ++ x) = none) :
    stripPrefix (String.ofList q).toList ((String.ofList p).toList ++ x) = none := by
  rwa [String.toList_ofList, String.toList_ofList]

/-- the dictionary comes first -/
theorem gen_getitem_data_is_model (sv : SeqVars) (fuel : Nat) (key : Text) (v : Val) (h : dataHas sv key = some v) :
    getitemGen sv (fuel + 1) key = .ok v := by
  simp only [getitemGen, h]

/-- a key `p-m` outside the dictionary is split at its last '-' into prefix `p` and suffix `m` -/
theorem gen_getitem_split (sv : SeqVars) (fuel : Nat) (p m : Text) (hm : '-' ∉ m)
    (hd : dataHas sv (p ++ '-' :: m) = none) :
    getitemGen sv (fuel + 1) (p ++ '-' :: m) = tailGen sv (getitemGen sv fuel) (p ++ '-' :: m) m p :=
  getitem_split sv fuel p m hm hd

/-- a key without '-' and no `prefix=`: KeyError -/
theorem gen_getitem_plain_key_missing (sv : SeqVars) (fuel : Nat) (key : Text) (hk : '-' ∉ key)
    (hp : sv.prefix_ = none) (hd : dataHas sv key = none) :
    getitemGen sv (fuel + 1) key = .keyError key := by
  have hl : rfind '-' key < 0 := by rw [rfind_none '-' key hk]; omega
  simp only [getitemGen, hd, hl, if_true, altPrefix, hp]

/-- the per-index names the loop does not store: the fixed-name variables of the model, outside the dictionary -/
def fixedKeys : List Text :=
  ["sequence-number".toList, "sequence-even".toList, "sequence-odd".toList, "sequence-letter".toList,
   "sequence-Letter".toList, "sequence-Roman".toList, "sequence-roman".toList, "sequence-length".toList,
   "sequence-item".toList, "sequence-key".toList]

/-- the keys of `fixedKeys` with the method name each is routed to -/
private def fixedRoutes : List (Text × Text) :=
  [("sequence-number".toList, "number".toList), ("sequence-even".toList, "even".toList), ("sequence-odd".toList, "odd".toList),
   ("sequence-letter".toList, "letter".toList), ("sequence-Letter".toList, "Letter".toList),
   ("sequence-Roman".toList, "Roman".toList), ("sequence-roman".toList, "roman".toList),
   ("sequence-length".toList, "length".toList), ("sequence-item".toList, "item".toList), ("sequence-key".toList, "key".toList)]

/-- what the dispatch asks of a key before it calls the method: the split at the last '-', the name an attribute of the class -/
private theorem fixedRoutes_ok : ∀ e ∈ fixedRoutes,
    e.1 = "sequence".toList ++ '-' :: e.2 ∧ '-' ∉ e.2 ∧ hasattrSelf e.2 = true ∧ e.1 ∈ fixedKeys := by
  -- the keys and names as lists of characters (read off the literals, as in `lits_append`), then a finite check
  unfold fixedRoutes fixedKeys
  repeat rw [String.toList_ofList]
  decide +kernel

/-- **`sequence-<name>` is routed to the method `<name>` with `data['sequence-index']`**, which is the entry of
`seqFixed` (`seqKeyRes` for `sequence-key`) -/
theorem gen_getitem_fixed_is_model (sv : SeqVars) (fuel : Nat) (hn : sv.noIndex = false)
    (hi : sv.index < sv.items.length) (hc : 97 + sv.index < maxCode)
    (hd : ∀ k ∈ fixedKeys, dataHas sv k = none) :
    optOf (getitemGen sv (fuel + 1) "sequence-number".toList) = seqFixed sv "number".toList ∧
    optOf (getitemGen sv (fuel + 1) "sequence-even".toList) = seqFixed sv "even".toList ∧
    optOf (getitemGen sv (fuel + 1) "sequence-odd".toList) = seqFixed sv "odd".toList ∧
    optOf (getitemGen sv (fuel + 1) "sequence-letter".toList) = seqFixed sv "letter".toList ∧
    optOf (getitemGen sv (fuel + 1) "sequence-Letter".toList) = seqFixed sv "Letter".toList ∧
    optOf (getitemGen sv (fuel + 1) "sequence-Roman".toList) = seqFixed sv "Roman".toList ∧
    optOf (getitemGen sv (fuel + 1) "sequence-roman".toList) = seqFixed sv "roman".toList ∧
    optOf (getitemGen sv (fuel + 1) "sequence-length".toList) = seqFixed sv "length".toList ∧
    optOf (getitemGen sv (fuel + 1) "sequence-item".toList) = seqFixed sv "item".toList ∧
    toSeqRes (getitemGen sv (fuel + 1) "sequence-key".toList) = seqKeyRes sv := by
  obtain ⟨f1, f2, f3, f4, f5, f6, f7, f8, f9⟩ := gen_seqvar_fixed_is_model sv hi hc
  have hx : dataGet sv ("sequence".toList ++ "-index".toList) = .ok (.int sv.index) := by
    rw [show "sequence".toList ++ "-index".toList = "sequence-index".toList from lits_append rfl]
    exact dataGet_index sv hn
  -- a key of the table, outside the dictionary: the method of its name, called with `data['sequence-index']`
  have route : ∀ e ∈ fixedRoutes, getitemGen sv (fuel + 1) e.1 = callAttr sv e.2 (.int sv.index) := by
    intro e he
    obtain ⟨hk, h1, h2, h3⟩ := fixedRoutes_ok e he
    rw [hk, getitem_split sv fuel _ e.2 h1 (hk ▸ hd _ h3), tail_attr h2 hx]
  -- per name: which method `getattr(self, name)` is, found by comparing the literals as strings
  simp only [fixedRoutes, List.forall_mem_cons, callAttr, String.toList_inj, String.reduceEq, ↓reduceIte] at route
  obtain ⟨r1, r2, r3, r4, r5, r6, r7, r8, r9, r10, -⟩ := route
  rw [r1, r2, r3, r4, r5, r6, r7, r8, r9, r10, f1, f2, f3, f4, f5, f6, f7, f8, f9, gen_seqvar_key_is_model sv hi]
  exact ⟨rfl, rfl, rfl, rfl, rfl, rfl, rfl, rfl, rfl, rfl⟩

/-- a prefix written with its dash, as `seqLookup` strips it, against prefix and suffix as `__getitem__` splits the key -/
private theorem dash_split (pd p x : Text) (h : p ++ "-".toList = pd) : pd ++ x = p ++ '-' :: x := by
  rw [← h, List.append_assoc]
  rfl

/-- **`sequence-var-x`** (no '-' in `x`): `self.value(data['sequence-index'], x)`, any exception of it a KeyError -
the `sequence-var-` branch of `seqLookup` -/
theorem gen_getitem_var_is_model (sv : SeqVars) (fuel : Nat) (x : Text) (hx : '-' ∉ x) (hn : sv.noIndex = false)
    (hd : dataHas sv ("sequence-var-".toList ++ x) = none) (hi : dataHas sv "sequence-var-index".toList = none) :
    toSeqRes (getitemGen sv (fuel + 1) ("sequence-var-".toList ++ x)) = seqLookup sv ("sequence-var-".toList ++ x) := by
  rw [lookup_sequence_var, ← gen_seqvar_value_is_seqValue]
  rw [dash_split "sequence-var-".toList "sequence-var".toList x (lits_append rfl)] at hd ⊢
  rw [← show "sequence-var".toList ++ "-index".toList = "sequence-var-index".toList from lits_append rfl] at hi
  have hq : "sequence-var".toList ++ '-' :: x ≠ "sequence-query".toList := by
    rw [String.toList_ofList, String.toList_ofList]
    simp
  -- not in the table `special_prefixes`: the literal differs from each of its entries
  have hs : isSpecialPrefix "sequence-var".toList = false := by
    simp only [isSpecialPrefix, specialNames, List.contains_eq_mem, List.mem_cons, String.toList_inj, String.reduceEq,
      List.not_mem_nil, or_self, decide_false]
  -- it ends in `-var`, and what is left of it is `sequence`
  have h4 : sliceFrom "sequence-var".toList (-4) = "-var".toList := by rw [String.toList_ofList, String.toList_ofList]; rfl
  have h5 : sliceTo "sequence-var".toList (-4) = "sequence".toList := by rw [String.toList_ofList, String.toList_ofList]; rfl
  rw [getitem_split sv fuel _ x hx hd, tail_var hs h4 h5 hi hq,
    show "sequence".toList ++ "-index".toList = "sequence-index".toList from lits_append rfl]
  rw [pyData, bind_ok]
  dsimp only
  rw [dataGet_index sv hn, pyCall2, bind_ok, bind_ok]

/-- **`first-x`** (no '-' in `x`) is routed through `special_prefixes` to `first(x, key)` - the `first-` branch of
`seqLookup` -/
theorem gen_getitem_first_is_model (sv : SeqVars) (fuel : Nat) (x : Text) (hx : '-' ∉ x) (hw : WellPlaced sv)
    (hd : dataHas sv ("first-".toList ++ x) = none) (hi : dataHas sv "first-index".toList = none) :
    toSeqRes (getitemGen sv (fuel + 1) ("first-".toList ++ x)) = seqLookup sv ("first-".toList ++ x) := by
  rw [lookup_first sv x (lits_strip rfl) (lits_strip rfl)]
  rw [dash_split "first-".toList "first".toList x (lits_append rfl)] at hd ⊢
  rw [← show "first".toList ++ "-index".toList = "first-index".toList from lits_append rfl] at hi
  rw [getitem_split sv fuel _ x hx hd, tail_special (by decide +kernel) hi, callSpecial, if_pos rfl,
    gen_seqvar_first_is_model sv x _ hw]

/-- **`last-x`** likewise: `last(x, key)` - the `last-` branch of `seqLookup` -/
theorem gen_getitem_last_is_model (sv : SeqVars) (fuel : Nat) (x : Text) (hx : '-' ∉ x) (hw : WellPlaced sv)
    (hd : dataHas sv ("last-".toList ++ x) = none) (hi : dataHas sv "last-index".toList = none) :
    toSeqRes (getitemGen sv (fuel + 1) ("last-".toList ++ x)) = seqLookup sv ("last-".toList ++ x) := by
  rw [lookup_last sv x (lits_strip rfl) (lits_strip rfl) (lits_strip rfl)]
  rw [dash_split "last-".toList "last".toList x (lits_append rfl)] at hd ⊢
  rw [← show "last".toList ++ "-index".toList = "last-index".toList from lits_append rfl] at hi
  rw [getitem_split sv fuel _ x hx hd, tail_special (by decide +kernel) hi, callSpecial,
    if_neg (mt String.toList_injective (by simp)), if_pos rfl, gen_seqvar_last_is_model sv x _ hw]

/-- the hypotheses are satisfiable: a frame of the loop with an empty dictionary of extras -/
example : ∀ k ∈ fixedKeys, dataHas { items := [.int 1, .int 2], index := 1, started := false } k = none := by decide +kernel

end GenDispatch

/-! ### The whole of `InClass.renderwob` (prologue, loop, epilogue), translated from the source on every run

Outside the model's dtml-in (and so outside these equalities): multi-key and `/func/desc` sort specifications (`sortPart` is one
key, default comparison), lazy sequences (`SequenceFromIter`: `ensureSubscription` is the identity on lists / tuples / strings,
the keys of a mapping), the batch parameters (`renderwb`: its loop is tied by `gen_in_batch_*`, its prologue by the window
theorems of C11). -/

section GenTag
open DTML.GenIn DTML.Lemmas.InGen

/-- the construction of the variables, the pushes, the loop, the join and the pops of the source are `loopPart` -/
theorem inRenderGen_eq_loopPart (env : Env) (fuel : Nat) (o : InOpts) (body : List Blk) (ys : List Val) (cache : Option Frame) (s1 : St) :
    oneRes (inRenderGen env fuel o body (.list ys) cache s1) = loopPart env fuel o body ys cache.toList s1 := by
  unfold inRenderGen loopPart
  simp only [seqItems]
  have hl := gen_in_loop_from_start env o body fuel ys
  cases cache
  all_goals
    simp only [Option.toList, List.cons_append, List.nil_append, List.length_cons, List.length_nil]
    rw [hl]
    outcome inLoop env fuel _ o body 0 _
    · simp only [joinResult]
      cases joinUnicode env _ <;> simp [oneRes]
    all_goals simp [joinResult, oneRes]

/-- **sort, then reverse** (C13 rests on this order): between the emptiness probe and the loop the source evaluates the sort key,
sorts, evaluates the reverse condition, reverses - in this order -/
theorem gen_in_sort_then_reverse (env : Env) (f : Nat) (o : InOpts) (x : InXOpts) (body : List Blk) (els : Option (List Blk)) (V : Val)
    (cache : Option Frame) (st : St) (hs : GenIn.isStr V = false) (hp : GenIn.seqItems V ≠ []) :
    oneRes (GenIn.inArrangeGen env (f + 1) o x body els V cache st) =
      Lemmas.InGen.contR (evalSortKey env (f + 1) x st) (fun key sA =>
        Lemmas.InGen.contR (sortPart env o { x with sortKey := key } (GenIn.seqItems V) sA) (fun sorted sB =>
          Lemmas.InGen.contR (evalReverse env (f + 1) x sB) (fun rev s1 =>
            Lemmas.InGen.loopPart env (f + 1) o body (applyReverse rev sorted) cache.toList s1))) := by
  rw [inArrangeGen_eq, if_neg (by simp [hs]), if_neg (by simpa using hp)]
  simp only [reverse_step_eq env f o x _ _ (fun ys s => inRenderGen env (f + 1) o body (.list ys) cache s)]
  rw [sort_step_eq env f o x V st (fun ys s => andThen (evalReverse env (f + 1) x s) fun rev s1 =>
    inRenderGen env (f + 1) o body (.list (applyReverse rev ys)) cache s1)]
  simp only [contR_eq_andThen, oneRes_andThen, inRenderGen_eq_loopPart]

/-- **the whole unbatched tag**: the prologue of `renderwob` as the source runs it (the sequence by name or by expression,
`sequence_ensure_subscription`, the refusal of a string, the else section exactly when `sequence[0]` fails, the sort step, then
the reverse step, the variables built and pushed on top of the cache of a named sequence), the loop from `inLoopStart`, the
join and the pops of the `finally`, is `renderBlk` on dtml-in with sort / reverse options, for every namespace and fuel -/
theorem gen_in_tag_is_model (env : Env) (fuel : Nat) (src : Src) (o : InOpts) (x : InXOpts) (body : List Blk)
    (els : Option (List Blk)) (st : St) (hb : x.batch = none) :
    oneRes (GenIn.inTagGen env fuel src o x body els st) = renderBlk env (fuel + 1) (.inx_ src o x body els) st := by
  rw [inTagGen_eq, oneRes_andThen, renderBlk_inx, inPrologue]
  cases fuel with
  | zero => rw [evalSrc_zero]; rfl
  | succ f =>
    congr 1
    funext v s
    cases hi : itemsOf v with
    -- not a sequence (the kinds `itemsOf` accepts are ruled out by `hi`): both sides raise the same error
    | none => cases v <;> first | rfl | cases hi
    | some xs =>
      obtain ⟨V, hV, hs, hx, hc⟩ := ensure_of_items hi
      rw [hV]
      cases xs with
      | nil =>
        dsimp only
        rw [inArrangeGen_eq, if_neg (by simp [hs]), if_pos (by rw [hx]; rfl)]
      | cons a t =>
        simp only [gen_in_sort_then_reverse env f o x body els V _ s hs (by rw [hx]; simp), contR_eq_andThen, loopPart_eq,
          hx, hc, hb]

end GenTag

/-- the same for the plain dtml-in (`.in_`: no sort / reverse options) -/
theorem gen_in_tag_is_in (env : Env) (fuel : Nat) (src : Src) (o : InOpts) (body : List Blk) (els : Option (List Blk)) (st : St) :
    oneRes (GenIn.inTagGen env fuel src o {} body els st) = renderBlk env (fuel + 1) (.in_ src o body els) st := by
  rw [gen_in_tag_is_model env fuel src o {} body els st rfl, renderBlk_inx, renderBlk_in]
  cases fuel with
  | zero => rw [inPrologue, inPrologue, evalSrc_zero]; rfl
  -- with fuel the option steps compute away: no sort key, nothing to reverse, no batch
  | succ f => rfl

/-- **the else section is rendered exactly when the sequence is empty** (the generated prologue; `else_iff_empty` is the same
statement about the model) -/
theorem gen_in_else_iff_empty (env : Env) (fuel : Nat) (src : Src) (o : InOpts) (x : InXOpts) (body e : List Blk) (st st' : St)
    (xs : List Val) (h : evalSrc env fuel src st = (.ok (.list xs), st')) :
    (xs = [] → GenIn.inTagGen env fuel src o x body (some e) st = renderJoined env fuel e st') ∧
    (xs ≠ [] → ∀ e', GenIn.inTagGen env fuel src o x body (some e) st = GenIn.inTagGen env fuel src o x body e' st) := by
  have key : ∀ els, GenIn.inTagGen env fuel src o x body els st =
      GenIn.inArrangeGen env fuel o x body els (.list xs) (Lemmas.InGen.cacheG src (.list xs)) st' := by
    intro els
    rw [Lemmas.InGen.inTagGen_eq, h]
    rfl
  simp only [key, Lemmas.InGen.inArrangeGen_eq]
  constructor
  · rintro rfl
    rfl
  · intro hx e'
    have he : (GenIn.seqItems (.list xs)).isEmpty = false := by simpa [GenIn.seqItems] using hx
    rw [he]
    rfl

end DTML.Props.C10
