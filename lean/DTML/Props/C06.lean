/-
C06 — Compiling any source terminates and fails only with a located ParseError.
Model: DTML/Scan.lean (scanners, tokeniser), DTML/Parse.lean (attribute grammar,
tag roles, builder, tag constructors).  All model functions are total (structural
recursion / explicit fuel); the theorems below show the fuel is sufficient and
that every reported error names a tag of the source.  The second sentence of the property, "rejected if and only if the tag
grammar is violated", is stated on the builder as an iteration of `stepTok` (Lemmas/Builder); facts about the scanners come
from Lemmas/Scanner.  The file opens with the obligations on the tables extracted from the source (`gen_regexes`,
`gen_commands`, `gen_param_tables`) and ends with those on `parse_params` / `name_param` (GenParams, with Lemmas/Params) and
on `parseTag` (GenParseTag, with Lemmas/ParseTag) as translated on every run.
-/
import DTML.Scan
import DTML.Parse
import DTML.Lemmas.Builder
import DTML.Props.C01
import DTML.Lemmas.Params
import DTML.Lemmas.ParseTag
namespace DTML.Props.C06
open DTML.Scan DTML.Parse

/-! ### obligations on what the translator extracted from the source -/

/-- the regular expressions the hand-compiled scanners stand for: a changed
pattern breaks this obligation (and forces the scanners to be re-validated) -/
theorem gen_regexes :
    Gen.epfsTagre = "%\\((?P<name>[a-zA-Z0-9_/.-]+)([\x00- ]+(?P<args>(?:[^\\)\"]+(?:\"[^\"]*\"[^\\)\"]+)*(?:\"[^\"]*\")?)?))?\\)(?P<fmt>[0-9]*[.]?[0-9]*[a-z]|[]![])" ∧
    Gen.epfsTagreIgnoreCase = true ∧
    Gen.htmlNameMatch = "[\x00- ]*[a-zA-Z]+[\x00- ]*" ∧
    Gen.htmlEndMatch = "[\x00- ]*(/|end)" ∧ Gen.htmlEndMatchIgnoreCase = true ∧
    Gen.htmlStartSearch = "[<&]" ∧ Gen.htmlEntName = "[-a-zA-Z0-9_.]+" ∧
    Gen.skipEol = "[ \t]*\n" ∧ Gen.simpleName = "^[a-z][a-z0-9_]*$" ∧
    Gen.paramRegexes = ["([\x00- ]*([^\x00- =\"]+))", "([\x00- ]*(\"[^\"]*\"))",
      "([\x00- ]*([^\x00- =\"]+)=([^\x00- =\"]+))", "([\x00- ]*([^\x00- =\"]+)=\"([^\"]*)\")"] := by
  exact ⟨rfl, rfl, rfl, rfl, rfl, rfl, rfl, rfl, rfl, rfl⟩

/-- the command table: every tag name, and which tags are blocks with which continuations -/
theorem gen_commands :
    Gen.commands.map (fun c => (c.1, c.2.2)) =
      (["call", "comment", "else", "if", "in", "let", "raise", "return", "tree", "try", "unless", "var", "with"].map
        fun n => (n, (Cmd.ofName n).bind Cmd.continuations)) ∧
    ∀ c ∈ Gen.commands, (Cmd.ofName c.1).map Cmd.name = some c.2.1 := by
  decide +kernel

/-- attribute tables of the tags (names only; the defaults are used as generated) -/
theorem gen_param_tables :
    Gen.varParams.map (·.1) = ["name", "lower", "upper", "expr", "capitalize", "spacify", "null", "fmt", "size",
      "etc", "thousands_commas", "html_quote", "url_quote", "sql_quote", "url_quote_plus", "url_unquote",
      "url_unquote_plus", "missing", "newline_to_br", "url"] ∧
    Gen.inParams.map (·.map (·.1)) = [["name", "start", "end", "size", "orphan", "overlap", "mapping",
      "no_push_item", "skip_unauthorized", "previous", "next", "expr", "sort", "reverse", "sort_expr",
      "reverse_expr", "prefix"], ["name"]] ∧
    Gen.ifParams.map (·.map (·.1)) = [["name", "expr"], ["name"], ["name", "expr"]] ∧
    Gen.unlessParams.map (·.map (·.1)) = [["name", "expr"]] ∧
    Gen.withParams.map (·.map (·.1)) = [["name", "expr", "mapping", "only"]] ∧
    Gen.raiseParams.map (·.map (·.1)) = [["type", "expr"]] ∧
    Gen.returnParams.map (·.map (·.1)) = [["name", "expr"]] ∧
    Gen.callParams.map (·.map (·.1)) = [["name", "expr"]] ∧
    Gen.tryParams = [[]] := by
  exact ⟨rfl, rfl, rfl, rfl, rfl, rfl, rfl, rfl, rfl⟩

/-! ### every tag is at least one character long: scanning makes progress -/

theorem candidate_len_pos (s : Text) (len : Nat) (tk : Tok) (h : candidate s = .tok len tk) : 1 ≤ len :=
  (Lemmas.Scanner.candidate_tok s len tk h).2

theorem matchEpfs_len_pos (s : Text) (len : Nat) (tk : Tok) (h : matchEpfs s = some (len, tk)) : 1 ≤ len :=
  (Lemmas.Scanner.matchEpfs_tok s len tk h).2

/-- a search step consumes at least one character -/
theorem scan_progress (syn : Syntax) (s lit rest : Text) (tk : Tok)
    (h : scan syn s = some (lit, tk, rest)) : rest.length < s.length ∧ 1 ≤ tk.text.length := by
  obtain ⟨hr, hpos⟩ := Lemmas.Scanner.scan_some syn s lit rest tk h
  refine ⟨?_, hpos⟩
  rw [← hr]
  simp only [List.length_append]
  omega

/-- **Tokenising terminates with everything scanned**: the fuel `|src| + 1` is
always sufficient — the trailing literal contains no further tag. -/
theorem tokens_complete (syn : Syntax) : ∀ (fuel : Nat) (s : Text), s.length < fuel →
    scan syn (tokensAux syn fuel s).2 = none := by
  intro fuel
  induction fuel with
  | zero => intro s h; omega
  | succ n ih =>
    intro s h
    simp only [tokensAux]
    cases hs : scan syn s with
    | none => simpa using hs
    | some v =>
      obtain ⟨lit, tk, rest⟩ := v
      have := (scan_progress syn s lit rest tk hs).1
      exact ih rest (by omega)

theorem tokens_tail_tagfree (syn : Syntax) (src : Text) : scan syn (tokens syn src).2 = none :=
  tokens_complete syn _ src (by omega)

/-! ### The builder as a state machine: "rejected if and only if the tag grammar is violated"

`stepTok` (Lemmas/Builder.lean) is one iteration of `buildAux` (one token), `runToks` the iteration over a token list;
`buildAux_eq_run` shows that the builder *is* that iteration followed by the end-of-text test.  The grammar violations of
the property are then statements about single steps (the section after next; the index at which they are reported is
counted in the next one): whatever valid text precedes it, the offending token makes compilation fail, with the error
located at that token (or, for a block's attributes and a missing end tag, at the block's start tag). -/

def runToks (syn : Syntax) : List (Text × Tok) → BState → Except Located BState
  | [], σ => .ok σ
  | p :: ps, σ =>
    match stepTok syn σ p with
    | .error e => .error e
    | .ok σ' => runToks syn ps σ'

/-- the end of the text: every block must have been closed -/
def finish (tl : Text) (σ : BState) : Except Located Out :=
  match σ.stack with
  | f :: _ => .error ⟨⟨"No closing tag"⟩, f.startTok⟩
  | [] => .ok ⟨(litNode (if σ.aft then skipEol tl else tl)).reverse ++ σ.top |>.reverse, σ.ex⟩

theorem buildAux_nil (syn : Syntax) (tl : Text) (σ : BState) :
    buildAux syn [] tl σ.idx σ.aft σ.stack σ.top σ.ex = finish tl σ := by
  unfold buildAux finish
  cases σ.stack <;> rfl

/-- **the builder is the iteration of `stepTok`**, then `finish` -/
theorem buildAux_eq_run (syn : Syntax) (tl : Text) : ∀ (ps : List (Text × Tok)) (σ : BState),
    buildAux syn ps tl σ.idx σ.aft σ.stack σ.top σ.ex =
      (match runToks syn ps σ with
       | .error e => .error e
       | .ok σ' => finish tl σ') := by
  intro ps
  induction ps with
  | nil => exact buildAux_nil syn tl
  | cons p ps ih =>
    intro σ
    rw [buildAux_cons, runToks]
    cases stepTok syn σ p with
    | error e => rfl
    | ok σ' => exact ih σ'

theorem build_eq_run (syn : Syntax) (ps : List (Text × Tok)) (tl : Text) :
    buildAux syn ps tl 0 false [] [] [] =
      (match runToks syn ps BState.init with
       | .error e => .error e
       | .ok σ => finish tl σ) :=
  buildAux_eq_run syn tl ps BState.init

theorem compile_eq_run (syn : Syntax) (src : Text) :
    compile syn src =
      (match runToks syn (tokens syn src).1 BState.init with
       | .error e => .error e
       | .ok σ => finish (tokens syn src).2 σ) :=
  build_eq_run syn (tokens syn src).1 (tokens syn src).2

theorem runToks_append (syn : Syntax) : ∀ (a b : List (Text × Tok)) (σ : BState),
    runToks syn (a ++ b) σ =
      (match runToks syn a σ with
       | .error e => .error e
       | .ok σ' => runToks syn b σ') := by
  intro a
  induction a with
  | nil => intro b σ; rfl
  | cons p a ih =>
    intro b σ
    simp only [List.cons_append, runToks]
    cases stepTok syn σ p with
    | error e => rfl
    | ok σ' => exact ih b σ'

/-- a run that fails fails at one step, after a prefix of legal steps -/
theorem runToks_error_split (syn : Syntax) : ∀ (qs : List (Text × Tok)) (σ : BState) (e : Located),
    runToks syn qs σ = .error e →
    ∃ pre p rest σ', qs = pre ++ p :: rest ∧ runToks syn pre σ = .ok σ' ∧ stepTok syn σ' p = .error e := by
  intro qs
  induction qs with
  | nil => intro σ e h; cases h
  | cons q qs ih =>
    intro σ e h
    simp only [runToks] at h
    cases hs : stepTok syn σ q with
    | error e' =>
      rw [hs] at h
      cases h
      exact ⟨[], q, qs, σ, rfl, rfl, hs⟩
    | ok σ₁ =>
      rw [hs] at h
      obtain ⟨pre, p, rest, σ', h1, h2, h3⟩ := ih σ₁ e h
      refine ⟨q :: pre, p, rest, σ', by rw [h1]; rfl, ?_, h3⟩
      simp only [runToks, hs]
      exact h2

/-- a build that fails fails at one step, or at the end of the text with a block still open -/
theorem buildAux_error_cases (syn : Syntax) (ps : List (Text × Tok)) (tl : Text) (σ : BState) (le : Located)
    (h : buildAux syn ps tl σ.idx σ.aft σ.stack σ.top σ.ex = .error le) :
    (∃ pre p rest σ', ps = pre ++ p :: rest ∧ runToks syn pre σ = .ok σ' ∧ stepTok syn σ' p = .error le) ∨
    (∃ σ' f fs, runToks syn ps σ = .ok σ' ∧ σ'.stack = f :: fs ∧ le = ⟨⟨"No closing tag"⟩, f.startTok⟩) := by
  rw [buildAux_eq_run] at h
  cases hr : runToks syn ps σ with
  | error e =>
    rw [hr] at h
    cases h
    exact Or.inl (runToks_error_split syn ps _ _ hr)
  | ok σ' =>
    rw [hr] at h
    simp only [finish] at h
    cases hs : σ'.stack with
    | nil => rw [hs] at h; cases h
    | cons f fs =>
      rw [hs] at h
      cases h
      exact Or.inr ⟨σ', f, fs, rfl, hs, rfl⟩

/-! ### every error is reported for a tag of the source -/

/-- every open block was opened at an earlier token -/
def Below (σ : BState) : Prop := ∀ f ∈ σ.stack, f.startTok < σ.idx

theorem pushNodes_startToks (ns : List Node) (stack : List Frame) (top : List Node) :
    (pushNodes ns stack top).1.map (·.startTok) = stack.map (·.startTok) := by
  cases stack <;> rfl

theorem below_of_map {σ σ' : BState} (h : Below σ) (hi : σ'.idx = σ.idx + 1)
    (hs : ∀ t ∈ σ'.stack.map (·.startTok), t = σ.idx ∨ t ∈ σ.stack.map (·.startTok)) : Below σ' := by
  intro f hf
  rcases hs _ (List.mem_map_of_mem hf) with h1 | h1
  · omega
  · obtain ⟨g, hg, he⟩ := List.mem_map.mp h1
    have := h g hg
    omega

/-- one token: the index advances, the open blocks stay below it, and an error is reported at this token or at the start
tag of an open block -/
theorem stepTok_located (syn : Syntax) (σ : BState) (p : Text × Tok) :
    match stepTok syn σ p with
    | .ok σ' => σ'.idx = σ.idx + 1 ∧ (Below σ → Below σ')
    | .error e => Below σ → e.tok ≤ σ.idx := by
  simp only [stepTok]
  cases tagRole syn p.2 (σ.stack.head?.map fun f => (f.cmd, f.sargs)) with
  | error e => exact fun _ => Nat.le_refl _
  | ok role =>
    cases role with
    | start cmd args =>
      dsimp only
      by_cases hb : cmd.isBlock = true
      · rw [if_pos hb]
        refine ⟨rfl, fun h => below_of_map h rfl ?_⟩
        simp only [List.map_cons, pushNodes_startToks, List.mem_cons]
        exact fun t ht => ht
      · rw [if_neg hb]
        cases checkSimple cmd args with
        | error e => exact fun _ => Nat.le_refl _
        | ok b =>
          refine ⟨rfl, fun h => below_of_map h rfl ?_⟩
          simp only [pushNodes_startToks]
          exact fun t ht => Or.inr ht
    | cont name args =>
      cases hs : σ.stack with
      | nil => exact fun _ => Nat.le_refl _
      | cons f fs =>
        refine ⟨rfl, fun h => below_of_map h rfl ?_⟩
        simp only [hs, List.map_cons]
        exact fun t ht => Or.inr ht
    | close a =>
      cases hs : σ.stack with
      | nil => exact fun _ => Nat.le_refl _
      | cons f fs =>
        simp only []
        cases checkBlock f.cmd _ with
        | error e => exact fun h => Nat.le_of_lt (h f (by rw [hs]; exact List.mem_cons_self ..))
        | ok b =>
          refine ⟨rfl, fun h => below_of_map h rfl ?_⟩
          simp only [pushNodes_startToks, hs, List.map_cons, List.mem_cons]
          exact fun t ht => Or.inr (Or.inr ht)

/-- a run of legal steps counts the tokens and keeps the open blocks below the index -/
theorem runToks_below (syn : Syntax) : ∀ (ps : List (Text × Tok)) (σ σ' : BState), runToks syn ps σ = .ok σ' →
    σ'.idx = σ.idx + ps.length ∧ (Below σ → Below σ') := by
  intro ps
  induction ps with
  | nil =>
    intro σ σ' h
    cases h
    exact ⟨rfl, id⟩
  | cons p ps ih =>
    intro σ σ' h
    have h1 := stepTok_located syn σ p
    rw [runToks] at h
    cases hs : stepTok syn σ p with
    | error e => rw [hs] at h; cases h
    | ok σ₁ =>
      rw [hs] at h h1
      obtain ⟨hi, hb⟩ := ih σ₁ σ' h
      exact ⟨by rw [hi, h1.1, List.length_cons]; omega, fun hσ => hb (h1.2 hσ)⟩

theorem runToks_init_idx (syn : Syntax) (pre : List (Text × Tok)) (σ : BState)
    (h : runToks syn pre BState.init = .ok σ) : σ.idx = pre.length := by
  rw [(runToks_below syn pre _ σ h).1]
  exact Nat.zero_add _

/-- the builder reports an error only for a token it has seen -/
theorem build_error_index (syn : Syntax) : ∀ (ps : List (Text × Tok)) (tl : Text) (idx : Nat) (aft : Bool)
    (stack : List Frame) (top : List Node) (ex : List ExprUse) (le : Located),
    (∀ f ∈ stack, f.startTok < idx) →
    buildAux syn ps tl idx aft stack top ex = .error le → le.tok < idx + ps.length := by
  intro ps tl idx aft stack top ex le hst h
  rcases buildAux_error_cases syn ps tl ⟨idx, aft, stack, top, ex⟩ le h with
    ⟨pre, p, rest, σ', rfl, hrun, hstep⟩ | ⟨σ', f, fs, hrun, hs, rfl⟩
  · obtain ⟨hi, hb⟩ := runToks_below syn pre _ σ' hrun
    have h1 := stepTok_located syn σ' p
    rw [hstep] at h1
    have := h1 (hb hst)
    simp only [List.length_append, List.length_cons] at hi ⊢
    omega
  · obtain ⟨hi, hb⟩ := runToks_below syn ps _ σ' hrun
    have := hb hst f (by rw [hs]; exact List.mem_cons_self ..)
    dsimp only at hi ⊢
    omega

/-- **Located errors.**  When compilation fails, the error is reported for a
token of the source: its index is within the token list, hence (by
`tokens_lossless`) the reported tag text is a slice of the source starting at
`tokStart`, and the reported line is `1 +` the number of newlines before that
offset (`lineOf`, the model of `len(text[:start].split('\\n'))`). -/
theorem error_located (syn : Syntax) (src : Text) (le : Located)
    (h : compile syn src = .error le) : le.tok < (tokens syn src).1.length := by
  have := build_error_index syn (tokens syn src).1 (tokens syn src).2 0 false [] [] [] le (fun _ hf => nomatch hf) h
  rwa [Nat.zero_add] at this

private theorem tokStart_cons (l : Text) (t : Tok) (ps : List (Text × Tok)) (i : Nat) :
    tokStart ((l, t) :: ps) (i + 1) = (l.length + t.text.length) + tokStart ps i := by
  simp only [tokStart, List.take_succ_cons, List.map_cons, List.sum_cons, List.getD_cons_succ]
  omega

/-- the reported tag is a slice of the source: at offset `tokStart` of the
(flattened = original) source stands exactly the text of token `i` -/
theorem tokStart_spec : ∀ (ps : List (Text × Tok)) (tl : Text) (i : Nat) (h : i < ps.length),
    ((C01.flatten ps tl).drop (tokStart ps i)).take (ps[i].2.text.length) = ps[i].2.text := by
  intro ps
  induction ps with
  | nil => intro tl i h; simp at h
  | cons p ps ih =>
    intro tl i h
    obtain ⟨l, t⟩ := p
    cases i with
    | zero =>
      rw [C01.flatten_cons, show tokStart ((l, t) :: ps) 0 = l.length from Nat.zero_add _, List.append_assoc,
        List.drop_left, List.getElem_cons_zero, List.take_left]
    | succ i =>
      rw [tokStart_cons, C01.flatten_cons, ← List.length_append, List.drop_length_add_append, List.getElem_cons_succ]
      exact ih tl i (by simpa using h)

/-! ### the grammar violations: each is rejected at its own step, and nothing else is -/

/-- a block that is never closed is rejected, with the error on its own start tag -/
theorem unclosed_block_rejected (syn : Syntax) (tl : Text) (idx : Nat) (aft : Bool) (f : Frame)
    (fs : List Frame) (top : List Node) (ex : List ExprUse) :
    buildAux syn [] tl idx aft (f :: fs) top ex = .error ⟨⟨"No closing tag"⟩, f.startTok⟩ :=
  buildAux_nil syn tl ⟨idx, aft, f :: fs, top, ex⟩

/-- **Accepted iff the grammar is respected**: a token list compiles exactly when every token is a legal step and no block
is open at the end. -/
theorem accepted_iff (syn : Syntax) (ps : List (Text × Tok)) (tl : Text) :
    (∃ out, buildAux syn ps tl 0 false [] [] [] = .ok out) ↔
      ∃ σ, runToks syn ps BState.init = .ok σ ∧ σ.stack = [] := by
  rw [build_eq_run]
  cases runToks syn ps BState.init with
  | error e => exact ⟨fun ⟨_, h⟩ => (nomatch h), fun ⟨_, h, _⟩ => (nomatch h)⟩
  | ok σ =>
    simp only [finish, Except.ok.injEq, exists_eq_left']
    cases σ.stack with
    | nil => exact ⟨fun _ => rfl, fun _ => ⟨_, rfl⟩⟩
    | cons f fs => exact ⟨fun ⟨_, h⟩ => (nomatch h), fun h => (nomatch h)⟩

/-- a failing step anywhere makes the whole compilation fail with that step's error: the common form of the rejection
theorems below (`pre` = the tokens before the offending one, all legal) -/
theorem step_error_rejects (syn : Syntax) (pre rest : List (Text × Tok)) (p : Text × Tok) (tl : Text)
    (σ : BState) (e : Located) (hpre : runToks syn pre BState.init = .ok σ) (hstep : stepTok syn σ p = .error e) :
    buildAux syn (pre ++ p :: rest) tl 0 false [] [] [] = .error e := by
  rw [build_eq_run, runToks_append, hpre]
  simp only [runToks, hstep]

/-- a token to which `tagRole` gives no role (in either syntax) makes compilation fail with that error, located at the
token -/
theorem role_error_rejected (syn : Syntax) (pre rest : List (Text × Tok)) (p : Text × Tok) (tl : Text) (σ : BState)
    (e : PErr) (hpre : runToks syn pre BState.init = .ok σ)
    (hrole : tagRole syn p.2 (σ.stack.head?.map fun f => (f.cmd, f.sargs)) = .error e) :
    buildAux syn (pre ++ p :: rest) tl 0 false [] [] [] = .error ⟨e, pre.length⟩ := by
  rw [← runToks_init_idx syn pre σ hpre]
  apply step_error_rejects syn pre rest p tl σ _ hpre
  simp only [stepTok, hrole]

theorem tagRole_unknown (tk : Tok) (ctx : Option (Cmd × Text)) (hend : tk.isEnd = false)
    (hk : Cmd.ofName (String.ofList tk.name) = none)
    (hc : ∀ p, ctx = some p → String.ofList tk.name ∉ p.1.continuations.getD []) :
    tagRole .html tk ctx = .error ⟨"Unexpected tag"⟩ := by
  simp only [tagRole, hend, hk, Bool.false_eq_true, if_false]
  cases ctx with
  | none => rfl
  | some p => simp only [List.contains_iff_mem, hc p rfl, if_false]

theorem tagRole_unexpected_end (tk : Tok) (ctx : Option (Cmd × Text)) (hend : tk.isEnd = true)
    (hc : ∀ p, ctx = some p → String.ofList tk.name ≠ p.1.name) :
    tagRole .html tk ctx = .error ⟨"unexpected end tag"⟩ := by
  simp only [tagRole, hend, if_true]
  cases ctx with
  | none => rfl
  | some p => simp only [hc p rfl, if_false]

/-- **unknown tag**: a start tag whose name is no command (and no continuation of the open block) is rejected as
"Unexpected tag", located at that tag — `<dtml-…>` / `<!--#…-->` syntax -/
theorem unknown_tag_rejected (pre rest : List (Text × Tok)) (lit tl : Text) (tk : Tok) (σ : BState)
    (hpre : runToks .html pre BState.init = .ok σ) (hne : tk.isEnd = false)
    (hunk : Cmd.ofName (String.ofList tk.name) = none)
    (hcont : ∀ f, σ.stack.head? = some f → String.ofList tk.name ∉ f.cmd.continuations.getD []) :
    buildAux .html (pre ++ (lit, tk) :: rest) tl 0 false [] [] [] = .error ⟨⟨"Unexpected tag"⟩, pre.length⟩ := by
  apply role_error_rejected .html pre rest (lit, tk) tl σ _ hpre
  apply tagRole_unknown tk _ hne hunk
  intro p hp
  obtain ⟨f, hf, rfl⟩ := Option.map_eq_some_iff.mp hp
  exact hcont f hf

/-- **end tag without matching start**: an end tag when no block is open, or naming another block than the innermost
open one, is rejected as "unexpected end tag", located at that end tag -/
theorem end_without_start_rejected (pre rest : List (Text × Tok)) (lit tl : Text) (tk : Tok) (σ : BState)
    (hpre : runToks .html pre BState.init = .ok σ) (he : tk.isEnd = true)
    (hmis : ∀ f, σ.stack.head? = some f → String.ofList tk.name ≠ f.cmd.name) :
    buildAux .html (pre ++ (lit, tk) :: rest) tl 0 false [] [] [] =
      .error ⟨⟨"unexpected end tag"⟩, pre.length⟩ := by
  apply role_error_rejected .html pre rest (lit, tk) tl σ _ hpre
  apply tagRole_unexpected_end tk _ he
  intro p hp
  obtain ⟨f, hf, rfl⟩ := Option.map_eq_some_iff.mp hp
  exact hmis f hf

/-- **missing end tag**: when the text ends while a block is open, compilation fails with "No closing tag", located at
the start tag of the innermost open block -/
theorem missing_end_tag_rejected (syn : Syntax) (ps : List (Text × Tok)) (tl : Text) (σ : BState) (f : Frame)
    (fs : List Frame) (hrun : runToks syn ps BState.init = .ok σ) (hopen : σ.stack = f :: fs) :
    buildAux syn ps tl 0 false [] [] [] = .error ⟨⟨"No closing tag"⟩, f.startTok⟩ := by
  rw [build_eq_run, hrun]
  simp only [finish, hopen]

/-- **misplaced continuation tag**: `elif`, `except` and `finally` are no commands of their own, so outside a block that
lists them as continuations they are rejected ("Unexpected tag") — a special case of `unknown_tag_rejected`; and a
continuation tag can never be accepted with no block open -/
theorem misplaced_continuation_rejected (pre rest : List (Text × Tok)) (lit tl : Text) (tk : Tok) (σ : BState)
    (hpre : runToks .html pre BState.init = .ok σ) (hne : tk.isEnd = false)
    (hname : String.ofList tk.name = "elif" ∨ String.ofList tk.name = "except" ∨ String.ofList tk.name = "finally")
    (hcont : ∀ f, σ.stack.head? = some f → String.ofList tk.name ∉ f.cmd.continuations.getD []) :
    buildAux .html (pre ++ (lit, tk) :: rest) tl 0 false [] [] [] = .error ⟨⟨"Unexpected tag"⟩, pre.length⟩ := by
  apply unknown_tag_rejected pre rest lit tl tk σ hpre hne _ hcont
  rcases hname with h | h | h <;> rw [h] <;> decide +kernel

/-- **attributes a simple tag does not accept**: when the constructor of a non-block tag (`var`, `call`, `return`)
rejects its arguments (unknown or duplicate attribute, missing or contradictory name / expr …), compilation fails with
that error, located at that tag -/
theorem simple_attribute_error_rejected (syn : Syntax) (pre rest : List (Text × Tok)) (p : Text × Tok) (tl : Text)
    (σ : BState) (cmd : Cmd) (args : Text) (e : PErr)
    (hpre : runToks syn pre BState.init = .ok σ)
    (hrole : tagRole syn p.2 (σ.stack.head?.map (fun f => (f.cmd, f.sargs))) = .ok (.start cmd args))
    (hsimple : cmd.isBlock = false) (hbad : checkSimple cmd args = .error e) :
    buildAux syn (pre ++ p :: rest) tl 0 false [] [] [] = .error ⟨e, pre.length⟩ := by
  rw [← runToks_init_idx syn pre σ hpre]
  apply step_error_rejects syn pre rest p tl σ _ hpre
  simp only [stepTok, hrole, hsimple, hbad, Bool.false_eq_true, if_false]

/-- **attributes a block tag does not accept** (incl. repeated `else`, batch-only options without a batch, a non-simple
`prefix`: all decided by the block's constructor once its end tag is read): compilation fails with the constructor's
error, located at the block's *start* tag -/
theorem block_attribute_error_rejected (syn : Syntax) (pre rest : List (Text × Tok)) (p : Text × Tok) (tl : Text)
    (σ : BState) (f : Frame) (fs : List Frame) (a : Text) (e : PErr)
    (hpre : runToks syn pre BState.init = .ok σ) (hstack : σ.stack = f :: fs)
    (hrole : tagRole syn p.2 (some (f.cmd, f.sargs)) = .ok (.close a))
    (hbad : checkBlock f.cmd ((f.done ++ [(⟨f.curName, f.curArgs,
        ((litNode (if σ.aft then skipEol p.1 else p.1)).reverse ++ f.cur).reverse⟩ : Section Node)]).map
          fun (s : Section Node) => (s.tname, s.args)) = .error e) :
    buildAux syn (pre ++ p :: rest) tl 0 false [] [] [] = .error ⟨e, f.startTok⟩ := by
  apply step_error_rejects syn pre rest p tl σ _ hpre
  simp only [stepTok, hstack, List.head?, Option.map, hrole, hbad]

/-- **nothing else is ever reported**: every error of the builder is the error of one step — the tag-role error of a
token (unknown tag, end tag without matching start), a constructor's attribute error, or the missing end tag at the end
of the text.  With `accepted_iff` this is "rejected if and only if the tag grammar is violated". -/
theorem rejection_classified (syn : Syntax) (ps : List (Text × Tok)) (tl : Text) (le : Located)
    (h : buildAux syn ps tl 0 false [] [] [] = .error le) :
    (∃ pre p rest σ, ps = pre ++ p :: rest ∧ runToks syn pre BState.init = .ok σ ∧ stepTok syn σ p = .error le) ∨
    (∃ σ f fs, runToks syn ps BState.init = .ok σ ∧ σ.stack = f :: fs ∧ le = ⟨⟨"No closing tag"⟩, f.startTok⟩) :=
  buildAux_error_cases syn ps tl BState.init le h

/-- non-vacuity: `</dtml-if>` alone, an unknown tag, an unclosed block, a second `else`, an unknown attribute -/
example : (compile .html "a</dtml-if>".toList).toOption.isNone = true ∧
    (compile .html "<dtml-foo>".toList).toOption.isNone = true ∧
    (compile .html "<dtml-if x>a".toList).toOption.isNone = true ∧
    (compile .html "<dtml-if x>a<dtml-else>b<dtml-else>c</dtml-if>".toList).toOption.isNone = true ∧
    (compile .html "<dtml-var x bogus=1>".toList).toOption.isNone = true ∧
    (compile .html "<dtml-if x>a<dtml-else>b</dtml-if>".toList).toOption.isSome = true := by
  decide +kernel

/-! ### DT_Util.parse_params / name_param translated from the source on every run (DTML/GenParams.lean) -/
section GenParams
open DTML.GenParams DTML.Lemmas.Params

/-- the statements after the if / elif chain of parse_params (unknown attribute, duplicate with the list exemption, the
store, `text[l_:].strip()`, the recursion that ends on the empty text), as translated = the `.named` arm of the model -/
theorem gen_params_tail_is_model (tbl : Table) (k : Text → Params → Except PErr Params) (text : Text) (res : Params)
    (name value : Text) (L : Nat) :
    tailGen tbl k text res name value (text.take L).length =
      (match tbl.lookup (String.ofList name) with
       | none => .error ⟨"Invalid attribute name"⟩
       | some d =>
         if res.has (String.ofList name) && d != "[]" then .error ⟨"Duplicate values for attribute"⟩
         else
           if (pyStrip (text.drop L)).isEmpty then
             .ok ((res.filter (·.1 != String.ofList name)) ++ [(String.ofList name, .str value)])
           else k (pyStrip (text.drop L)) ((res.filter (·.1 != String.ofList name)) ++ [(String.ofList name, .str value)])) := by
  unfold tailGen
  simp only [parmsHas, parmsGet, repr_list_test, drop_take_length, dictSet]
  cases tbl.lookup (String.ofList name) with
  | none => simp only [Option.isSome_none, Bool.not_false, if_true]
  | some d =>
    simp only [Option.isSome_some, Bool.not_true, Option.getD_some]
    generalize res.has (String.ofList name) = a
    -- the source has the store and the recursion twice (a repeated attribute with a list default, a new attribute) and
    -- tests `if text` where the model tests `isEmpty`
    cases a <;> cases (pyStrip (text.drop L)).isEmpty <;> rfl

/-- one call of parse_params as translated (the four matchers tried in the order of the source, the group indices, the
stores, the errors) = one unfolding of the model, for every recursive call `k` -/
theorem gen_params_step_is_model (tbl : Table) (k : Text → Params → Except PErr Params) (text : Text) (res : Params) :
    stepGen tbl k text res = modelStep tbl k text res := by
  obtain ⟨hParm, hQparm, hUnparm, hQunparm, hNoMatch⟩ := chain_spec text
  have hres : (if dictTruthy res then res else []) = res := by
    cases res <;> rfl
  unfold stepGen modelStep
  simp only [hres]
  cases hp : matchParm text with
  | some g =>
    obtain ⟨L, hs, hg⟩ := hParm g hp
    simp only [Option.isSome_some, if_true, hs, hg, gen_params_tail_is_model]
    rfl
  | none =>
    cases hq : matchQparm text with
    | some g =>
      obtain ⟨L, hs, hg⟩ := hQparm g hq
      simp only [Option.isSome_some, Option.isSome_none, if_true, if_false, hs, hg, gen_params_tail_is_model, Bool.false_eq_true]
      rfl
    | none =>
      cases hu : matchUnparm text with
      | some g =>
        obtain ⟨L, hs, hg⟩ := hUnparm hp hq g hu
        simp only [Option.isSome_some, Option.isSome_none, if_true, if_false, hs, hg, Bool.false_eq_true, drop_take_length]
        cases res with
        | nil => rfl
        | cons a t =>
          rw [show dictTruthy (a :: t) = true from rfl, if_pos rfl, show (a :: t).isEmpty = false from rfl,
            if_neg Bool.false_ne_true]
          unfold parmsHas parmsGet reprIsNone dictSet
          cases tbl.lookup (String.ofList (grp (some g) 2)) with
          | none => rfl
          | some d => simp only [Option.isSome_some, if_true, Option.getD_some, beq_iff_eq]
      | none =>
        cases hv : matchQunparm text with
        | some g =>
          obtain ⟨L, hs, hg⟩ := hQunparm hu g hv
          simp only [Option.isSome_some, Option.isSome_none, if_true, if_false, hs, hg, Bool.false_eq_true, drop_take_length]
          cases res with
          | nil => rfl
          | cons a t => rfl
        | none =>
          simp only [Option.isSome_none, if_false, Bool.false_eq_true, hNoMatch hu hv, Bool.not_not]
          cases text with
          | nil => rfl
          | cons c t => cases (pyStrip (c :: t)).isEmpty <;> rfl

/-- parse_params as translated from the source on every run = the model's `parseParamsAux`, for every attribute table,
fuel, text and dictionary -/
theorem gen_parse_params_is_model (tbl : Table) : ∀ (fuel : Nat) (text : Text) (res : Params),
    parseParamsGen tbl fuel text res = parseParamsAux tbl fuel text res := by
  intro fuel
  induction fuel with
  | zero => intro text res; rfl
  | succ fuel ih =>
    intro text res
    have hk : parseParamsGen tbl fuel = parseParamsAux tbl fuel := funext fun t => funext fun r => ih t r
    rw [aux_succ, ← gen_params_step_is_model, ← hk]
    rfl

/-- … and so, started like a tag constructor starts it, `Parse.parseParams` -/
theorem gen_parse_params_is_parseParams (tbl : Table) (text : Text) :
    parseParamsGen tbl (text.length + 1) text [] = parseParams tbl text :=
  gen_parse_params_is_model tbl _ text []

/-- name_param as translated (which of '' / attr / 'expr' is looked at in which order, the "..." test, the error texts,
what goes to Eval) = the model's `nameParam`, for every dictionary, flag and attribute name -/
theorem gen_name_param_is_model (p : Params) (allowExpr : Bool) (attr : String) :
    nameParamGen p allowExpr attr = nameParam p allowExpr attr := by
  unfold nameParamGen nameParam
  simp only [Params.has, dictText, slice_1_m1]
  obtain h0 | ⟨v, h0⟩ := Option.eq_none_or_eq_some (p.lookup "")
  · simp only [h0, Option.isSome_none, if_false, Bool.false_eq_true]
    obtain ha | ⟨a, ha⟩ := Option.eq_none_or_eq_some (p.lookup attr)
    · simp only [ha, Option.isSome_none, if_false, Bool.false_eq_true]
      cases allowExpr
      · rfl
      · obtain he | ⟨e, he⟩ := Option.eq_none_or_eq_some (p.lookup "expr") <;> simp only [he] <;> rfl
    · simp only [ha, Option.isSome_some, if_true]
      cases allowExpr <;> rfl
  · simp only [h0, Option.isSome_some, if_true, quoted_test]
    -- the same tests in the same order; the source nests `if expr:` and `'expr' in params` where the model has `&&`,
    -- which computes once `allowExpr` is known
    cases allowExpr <;> rfl

/-- … also with the default of `attr` as written in the source -/
theorem gen_name_param_default (p : Params) (allowExpr : Bool) : nameParamGen p allowExpr = nameParam p allowExpr :=
  gen_name_param_is_model p allowExpr "name"

/-- termination of the recursion of parse_params: every successful match (`name=value`, `name="value"`, a bare word, a
quoted string) consumes at least one character, so the text handed to the recursive call is shorter -/
theorem params_progress (text : Text) (len : Nat) (h : consumed (nextSpec text) = some len) :
    1 ≤ len ∧ (text.drop len).length < text.length ∧ (pyStrip (text.drop len)).length < text.length :=
  ⟨nextSpec_consumes text len h, rest_shorter text len h,
    Nat.lt_of_le_of_lt (Lemmas.Scanner.pyStrip_length_le _) (rest_shorter text len h)⟩

/-- the model recurses on fuel (one unit per attribute), not on a measure: any fuel above the length of the text gives
the same result as the |text| + 1 that `parseParams` starts with - the fuel is never used up -/
theorem params_fuel_enough (tbl : Table) (fuel : Nat) (text : Text) (res : Params) (h : text.length < fuel) :
    parseParamsAux tbl fuel text res = parseParamsAux tbl (text.length + 1) text res :=
  aux_fuel_irrelevant tbl fuel (text.length + 1) text res h (Nat.lt_succ_self _)

/-- the translated recursion with any fuel above the length of the text = `Parse.parseParams` -/
theorem gen_parse_params_any_fuel (tbl : Table) (fuel : Nat) (text : Text) (h : text.length < fuel) :
    parseParamsGen tbl fuel text [] = parseParams tbl text := by
  rw [gen_parse_params_is_model]
  exact params_fuel_enough tbl fuel text [] h

/-- non-vacuity / a sample run of the translated code: the unnamed value, a keyword with a default, a quoted value, the
errors -/
example : (parseParamsGen Gen.varParams 30 "x fmt=\"a b\" upper".toList []).toOption =
      some [("", .str "x".toList), ("fmt", .str "a b".toList), ("upper", .dflt "1")] ∧
    (match parseParamsGen Gen.varParams 30 "x bogus=1".toList [] with | .error e => e.msg | .ok _ => "") =
      "Invalid attribute name" ∧
    (match parseParamsGen Gen.varParams 30 "x fmt=a fmt=b".toList [] with | .error e => e.msg | .ok _ => "") =
      "Duplicate values for attribute" ∧
    (match parseParamsGen Gen.varParams 30 "x =".toList [] with | .error e => e.msg | .ok _ => "") =
      "invalid parameter" ∧
    (match nameParamGen [("", .str "\"a+b\"".toList)] true with | .ok r => r.1.isExpr && r.1.name == "a+b".toList | .error _ => false) = true := by
  decide +kernel

end GenParams

/-! ### the tag grammar errors on the translated `parseTag` (GenParseTag.lean, regenerated on every run)

`stepTok` reads a tag through `tagRole`; by `Lemmas.ParseTag.parseTagGen_eq` that is `String._parseTag` around
`HTML.parseTag` / `String.parseTag` of the current source, so the ParseErrors of the source are the model's. -/

/-- the role the builder acts on is the one the translated `_parseTag` / `parseTag` of the syntax's class returns -/
theorem gen_parseTag_is_tagRole (syn : Syntax) (tk : Tok) (ctx : Option (Cmd × Text)) :
    DTML.Lemmas.ParseTag.parseTagGen syn tk (ctx.map (·.1)) ((ctx.map (·.2)).getD []) = tagRole syn tk ctx :=
  DTML.Lemmas.ParseTag.parseTagGen_eq syn tk ctx

/-- 'Unexpected tag': a start tag whose name is not in `self.commands` (and is no continuation of the open block) is
refused by the translated method of either class with that text -/
theorem gen_parseTag_unknown_tag (tk : Tok) (ctx : Option (Cmd × Text))
    (hend : tk.isEnd = false)
    (hk : Cmd.ofName (String.ofList tk.name) = none)
    (hc : ∀ p, ctx = some p → (p.1.continuations.getD []).contains (String.ofList tk.name) = false) :
    DTML.GenParseTag.parseTagHtmlGen tk (ctx.map (·.1)) ((ctx.map (·.2)).getD []) = .error ⟨"Unexpected tag"⟩ := by
  rw [DTML.Lemmas.ParseTag.html_eq]
  exact tagRole_unknown tk ctx hend hk fun p hp hm => by
    have := hc p hp
    rw [List.contains_iff_mem.mpr hm] at this
    cases this

/-- 'unexpected end tag': an end tag with no block open, or naming another command than the open block's -/
theorem gen_parseTag_unexpected_end (tk : Tok) (ctx : Option (Cmd × Text))
    (hend : tk.isEnd = true) (hc : ∀ p, ctx = some p → String.ofList tk.name ≠ p.1.name) :
    DTML.GenParseTag.parseTagHtmlGen tk (ctx.map (·.1)) ((ctx.map (·.2)).getD []) = .error ⟨"unexpected end tag"⟩ := by
  rw [DTML.Lemmas.ParseTag.html_eq]
  exact tagRole_unexpected_end tk ctx hend hc

end DTML.Props.C06
