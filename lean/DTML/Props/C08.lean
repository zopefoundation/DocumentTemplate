/-
C08 — Namespace stack and recursion level are restored on every exit path.
Model: DTML/Render.lean.  `Pres` (same frames, caches aside, same level) is respected by every primitive change the
interpreter makes to the state (`closed`), hence by all twenty mutually recursive functions at every fuel (`Closed.inv`,
Lemmas/Invariant.lean: one induction on the fuel); the state is threaded through exceptions and dtml-return, so the
statement covers every exit path.
After these, the obligations that the push and pop sites are those of the source as translated on every run:
`Let.render` / `With.render` (GenRender, with Lemmas/IBlock), `String.__call__` (GenCall, with Lemmas/Call), and
`TemplateDict.__init__` / `_push` / `_pop` (GenStack, with Lemmas/Stack).
-/
import DTML.Lemmas.Invariant
import DTML.GenRender
import DTML.Lemmas.Call
import DTML.Lemmas.Stack
import DTML.Lemmas.IBlock
namespace DTML.Props.C08
open DTML.Render

/-- an InstanceDict's attribute cache is not part of the namespace's identity -/
def erase : Frame → Frame
  | .inst v _ => .inst v []
  | f => f

/-- the namespace holds the same entries in the same order, and the level is the same -/
def Pres (a b : St) : Prop := b.stack.map erase = a.stack.map erase ∧ b.level = a.level

theorem Pres.refl (a : St) : Pres a a := ⟨rfl, rfl⟩
theorem Pres.trans {a b c : St} (h1 : Pres a b) (h2 : Pres b c) : Pres a c :=
  ⟨h2.1.trans h1.1, h2.2.trans h1.2⟩

/-- a dictionary on top of the namespace is still there, with the same entries -/
theorem Pres.top_dict {a b : St} (h : Pres a b) {kvs : List (Text × Val)} {fs : List Frame}
    (ha : a.stack = .dict kvs :: fs) : ∃ gs, b.stack = .dict kvs :: gs := by
  have h1 := h.1
  rw [ha] at h1
  rcases hb : b.stack with _ | ⟨g, gs⟩ <;> rw [hb] at h1
  · cases h1
  · -- only a dictionary is erased to a dictionary
    cases g <;> simp only [List.map_cons, erase, List.cons.injEq, reduceCtorEq, false_and, Frame.dict.injEq] at h1
    exact ⟨gs, by rw [h1.1]⟩

/-- a frame lookup changes at most an InstanceDict's cache -/
theorem frameGet_erase (env : Env) (f : Frame) (key : Text) (tr : List Event) (v : Val) (f' : Frame)
    (tr' : List Event) (h : frameGet env f key tr = (.val v f', tr')) : erase f' = erase f := by
  rcases frameGet_val h with rfl | ⟨_, _, _, rfl, rfl, _⟩ <;> rfl

theorem lookupStack_erase (env : Env) : ∀ (stack : List Frame) (key : Text) (tr : List Event) (v : Val)
    (stack' : List Frame) (tr' : List Event),
    lookupStack env stack key tr = (.val v stack', tr') → stack'.map erase = stack.map erase := by
  intro stack key tr v stack' tr' h
  obtain ⟨pre, f, f', post, t, rfl, rfl, hf⟩ := lookupStack_val h
  simp only [List.map_append, List.map_cons, frameGet_erase env f key t v f' tr' hf]

/-- like `Pres`, but the top frame (the block's own dictionary / sequence-variables frame, which
the loops update in place) may have changed -/
def PresTail (a b : St) : Prop :=
  b.stack.length = a.stack.length ∧ b.stack.tail.map erase = a.stack.tail.map erase ∧ b.level = a.level

theorem Pres.toTail {a b : St} (h : Pres a b) : PresTail a b := by
  obtain ⟨h1, h2⟩ := h
  refine ⟨?_, ?_, h2⟩
  · have := congrArg List.length h1; simpa using this
  · have := congrArg List.tail h1; simpa [List.map_tail] using this

theorem PresTail.trans {a b c : St} (h1 : PresTail a b) (h2 : PresTail b c) : PresTail a c :=
  ⟨h2.1.trans h1.1, h2.2.1.trans h1.2.1, h2.2.2.trans h1.2.2⟩

/-- frames pushed, something that keeps everything below the top frame, then all of them dropped -/
theorem pres_push_drop (st st2 : St) (f : Frame) (fs : List Frame)
    (h : PresTail { st with stack := (f :: fs) ++ st.stack } st2) :
    Pres st { st2 with stack := st2.stack.drop (fs.length + 1) } := by
  obtain ⟨_, l2, l3⟩ := h
  refine ⟨?_, l3⟩
  simp only [List.cons_append, List.tail_cons, List.map_append] at l2
  have : (st2.stack.drop (fs.length + 1)).map erase = ((st2.stack.tail).map erase).drop fs.length := by
    rw [← List.map_drop, List.drop_tail]
  rw [this, l2]
  have hl' : fs.length = (fs.map erase).length := by simp
  rw [hl', List.drop_left]

/-- pushing frames, running something that preserves, and popping them again restores -/
theorem pres_push_popn (st st' : St) (fs : List Frame)
    (h : Pres { st with stack := fs ++ st.stack } st') :
    Pres st { st' with stack := st'.stack.drop fs.length } := by
  cases fs with
  | nil => exact h
  | cons f fs => exact pres_push_drop st st' f fs h.toTail

theorem pres_push_pop (st st' : St) (f : Frame)
    (h : Pres { st with stack := f :: st.stack } st') :
    Pres st { st' with stack := st'.stack.drop 1 } :=
  pres_push_popn st st' [f] h

/-- `Pres` and `PresTail` are respected by everything the interpreter does to the state -/
theorem closed (env : Env) : Closed env Pres PresTail where
  same := fun hs hl => ⟨by rw [hs], hl⟩
  trans := Pres.trans
  lookup := fun hl => ⟨lookupStack_erase env _ _ _ _ _ _ hl, rfl⟩
  level := fun _ h => ⟨h.1, rfl⟩
  toTop := Pres.toTail
  transTop := PresTail.trans
  bindTop := fun k v a => by
    unfold bindTop
    split
    next kvs fs hs => exact ⟨by simp [hs], by simp [hs], rfl⟩
    next => exact (Pres.refl _).toTail
  setSeq := fun sv a => by
    unfold setSeq
    split
    next sv0 fs hs => exact ⟨by simp [hs], by simp [hs], rfl⟩
    next => exact (Pres.refl _).toTail
  popTop := fun f fs h => pres_push_drop _ _ f fs h

/-- every interpreter function at this fuel preserves the namespace (the loops that rewrite their own frame: below it) -/
structure IH (env : Env) (fuel : Nat) : Prop where
  getitem : ∀ key call st, Pres st (getitem env fuel key call st).2
  callSub : ∀ id st, Pres st (callSub env fuel id st).2
  evalExpr : ∀ e st, Pres st (evalExpr env fuel e st).2
  evalSrc : ∀ s st, Pres st (evalSrc env fuel s st).2
  fetchVar : ∀ s hq null st, Pres st (fetchVar env fuel s hq null st).2
  renderBlocks : ∀ bs st, Pres st (renderBlocks env fuel bs st).2
  withFrame : ∀ f body st, Pres st (withFrame env fuel f body st).2
  renderJoined : ∀ body st, Pres st (renderJoined env fuel body st).2
  framed : ∀ f body st, Pres st (framed env fuel f body st).2
  inIter : ∀ sv o body i st, Pres st (inIter env fuel sv o body i st).2
  raiseClass : ∀ cls e st, Pres st (raiseClass env fuel cls e st).2
  renderBlk : ∀ b st, Pres st (renderBlk env fuel b st).2
  condLoop : ∀ cs els st, PresTail st (condLoop env fuel cs els st).2
  inLoop : ∀ sv o body i st, PresTail st (inLoop env fuel sv o body i st).2
  inLoopB : ∀ sv o w body i st, PresTail st (inLoopB env fuel sv o w body i st).2
  inBatch : ∀ sv o bp w body els cache st, Pres st (inBatch env fuel sv o bp w body els cache st).2
  resolveNames : ∀ names bp bad st, Pres st (resolveNames env fuel names bp bad st).2
  evalSortKey : ∀ x st, Pres st (evalSortKey env fuel x st).2
  evalReverse : ∀ x st, Pres st (evalReverse env fuel x st).2
  letLoop : ∀ binds body st, PresTail st (letLoop env fuel binds body st).2

/-- every interpreter function, at every fuel, preserves the namespace and the level -/
theorem all_preserve (env : Env) : ∀ fuel, IH env fuel := by
  intro fuel
  have h := (closed env).inv fuel
  exact {
    getitem := fun key call st => (h.getitem key call st).2
    callSub := fun id st => (h.callSub id st).2
    evalExpr := fun e st => (h.evalExpr e st).2
    evalSrc := fun s st => (h.evalSrc s st).2
    fetchVar := fun s hq null st => (h.fetchVar s hq null st).2
    renderBlocks := fun bs st => (h.renderBlocks bs st).2
    withFrame := fun f body st => (h.withFrame f body st).2
    renderJoined := fun body st => (h.renderJoined body st).2
    framed := fun f body st => (h.framed f body st).2
    inIter := fun sv o body i st => (h.inIter sv o body i st).2
    raiseClass := fun cls e st => (h.raiseClass cls e st).2
    renderBlk := fun b st => (h.renderBlk b st).2
    condLoop := fun cs els st => (h.condLoop cs els st).2
    inLoop := fun sv o body i st => (h.inLoop sv o body i st).2
    inLoopB := fun sv o w body i st => (h.inLoopB sv o w body i st).2
    inBatch := fun sv o bp w body els cache st => (h.inBatch sv o bp w body els cache st).2
    resolveNames := fun names bp bad st => (h.resolveNames names bp bad st).2
    evalSortKey := fun x st => (h.evalSortKey x st).2
    evalReverse := fun x st => (h.evalReverse x st).2
    letLoop := fun binds body st => (h.letLoop binds body st).2 }

set_option linter.unusedVariables false in
theorem inLoop_step (env : Env) (fuel : Nat) (ih : IH env fuel) (sv : SeqVars) (o : InOpts)
    (body : List Blk) (i : Nat) (st : St) : PresTail st (inLoop env (fuel + 1) sv o body i st).2 :=
  (all_preserve env (fuel + 1)).inLoop sv o body i st

set_option linter.unusedVariables false in
theorem inLoopB_step (env : Env) (fuel : Nat) (ih : IH env fuel) (sv : SeqVars) (o : InOpts) (w : BWin)
    (body : List Blk) (i : Nat) (st : St) : PresTail st (inLoopB env (fuel + 1) sv o w body i st).2 :=
  (all_preserve env (fuel + 1)).inLoopB sv o w body i st

set_option linter.unusedVariables false in
theorem inBatch_step (env : Env) (fuel : Nat) (ih : IH env fuel) (sv0 : SeqVars) (o : InOpts) (bp : BatchP) (w : BWin)
    (body : List Blk) (els : Option (List Blk)) (cache : List Frame) (st : St) :
    Pres st (inBatch env (fuel + 1) sv0 o bp w body els cache st).2 :=
  (all_preserve env (fuel + 1)).inBatch sv0 o bp w body els cache st

theorem arrange_pres (env : Env) (o : InOpts) (x : InXOpts) (xs : List Val) (st : St) :
    Pres st (arrange env o x xs st).2 :=
  (closed env).arrange o x xs st

/-- **Every block restores the namespace.**  Whatever a block does — render to the end, raise
at any point inside it (in nested blocks, handlers, sub-templates, callables), or hit a
dtml-return — the namespace afterwards holds the same entries in the same order as before
(an InstanceDict's attribute cache aside) and the recursion level is the same. -/
theorem block_preserves_stack (env : Env) (fuel : Nat) (b : Blk) (st : St) :
    (renderBlk env fuel b st).2.stack.map erase = st.stack.map erase ∧
    (renderBlk env fuel b st).2.level = st.level :=
  (all_preserve env fuel).renderBlk b st

theorem render_preserves_stack (env : Env) (fuel : Nat) (bs : List Blk) (st : St) :
    (renderBlocks env fuel bs st).2.stack.map erase = st.stack.map erase ∧
    (renderBlocks env fuel bs st).2.level = st.level :=
  (all_preserve env fuel).renderBlocks bs st

/-- **A template invoked by name restores its caller's namespace and level**, on every exit
path (its own defaults and variables are pushed on entry and popped again; the level is
incremented and put back) — including the `infinite recursion` SystemError. -/
theorem subtemplate_preserves_stack (env : Env) (fuel : Nat) (id : Nat) (st : St) :
    (callSub env fuel id st).2.stack.map erase = st.stack.map erase ∧
    (callSub env fuel id st).2.level = st.level :=
  (all_preserve env fuel).callSub id st

/-- name lookups (with auto-call of callables and rendering of templates) and expressions too -/
theorem lookup_preserves_stack (env : Env) (fuel : Nat) (key : Text) (call : Bool) (st : St) :
    (getitem env fuel key call st).2.stack.map erase = st.stack.map erase ∧
    (getitem env fuel key call st).2.level = st.level :=
  (all_preserve env fuel).getitem key call st

/-- **A top-level call is balanced**: when `template(client, mapping, **kw)` finishes in any
way, the namespace it built holds exactly the frames it was built with (which `__call__` then
pops by count), and the level is the entry level + 1 that `__call__` resets. -/
theorem toplevel_call_balanced (env : Env) (fuel : Nat) (t : Template) (c : CallArgs) :
    (topCall env fuel t c).2.stack.map erase = (callStack t c).map erase ∧
    (topCall env fuel t c).2.level = 1 := by
  rw [topCall_eq, callResult_snd]
  exact (all_preserve env fuel).renderBlocks t.blocks { stack := callStack t c, level := 1 }

/-- **The caller continues with an uncorrupted namespace**: after a dtml-try whose body raised
(anywhere, at any depth) and whose handler ran, the blocks that follow start from the namespace
the try started from. -/
theorem caller_continues (env : Env) (fuel : Nat) (body : List Blk) (hs : List (Text × List Blk))
    (els : Option (List Blk)) (rest : List Blk) (st : St) :
    let st1 := (renderBlk env fuel (.try_ body hs els) st).2
    st1.stack.map erase = st.stack.map erase ∧ st1.level = st.level ∧
    (renderBlocks env fuel rest st1).2.stack.map erase = st.stack.map erase := by
  have h1 := (all_preserve env fuel).renderBlk (.try_ body hs els) st
  have h2 := (all_preserve env fuel).renderBlocks rest (renderBlk env fuel (.try_ body hs els) st).2
  exact ⟨h1.1, h1.2, h2.1.trans h1.1⟩

/-! ### The push / pop sites of `dtml-let`, `dtml-with` and a template call are the ones of the source

`GenRender.letBlockGen` / `withBlockGen` are regenerated on every run from `Let.render` / `With.render` in /repo
(harness/trans_render.py: the dictionary pushed before the bindings are evaluated, each binding stored in it, the section
rendered, `finally: md._pop(k)` with the `k` of the source; the with-object unwrapped / wrapped, the new TemplateDict of
`only`, the push, the section, the pop).  They compute what `renderBlk` does for `.let_` / `.with_`, the cases
`block_preserves_stack` above is proved about. -/

theorem gen_let_block_is_model (env : Env) (fuel : Nat) (binds : List (Text × Src)) (body : List Blk) (st : St) :
    GenRender.letBlockGen env fuel binds body st = renderBlk env (fuel + 1) (.let_ binds body) st := by
  rw [GenRender.letBlockGen, Lemmas.IBlock.letLoopGen_eq]
  rfl

theorem gen_with_block_is_model (env : Env) (fuel : Nat) (src : Src) (mapping only : Bool) (body : List Blk) (st : St) :
    GenRender.withBlockGen env fuel src mapping only body st = renderBlk env (fuel + 1) (.with_ src mapping only body) st := by
  rw [GenRender.withBlockGen]
  simp only [Lemmas.IBlock.pushedGen_eq]
  rfl

/-- **The template call whose stack / level restoration is proved above is `String.__call__` of the source** (regenerated on
every run: the pushes counted in `pushed`, the recursion guard popping what it pushed, `finally: if pushed:
md._pop(pushed); md.level = level`) -/
theorem gen_template_call_is_model (env : Env) (fuel id : Nat) (t : Template) (st : St)
    (ht : env.templates[id]? = some t) :
    GenCall.callGen env fuel t [] .namespace [] st = callSub env (fuel + 1) id st :=
  Lemmas.Call.call_on_caller_namespace env fuel id t st ht

/-! ### `_push` / `_pop` of the model are `TemplateDict._push` / `_pop` of the source

`GenStack.initGen`, `pushGen`, `popGen` are regenerated on every run from `TemplateDict.__init__`, `_push`, `_pop`
(harness/trans_stack.py).  The source keeps the data sources in `_data` with the TOP LAST; the model's `St.stack` has the TOP
FIRST: `GenStack.absStack td = td.data.reverse` is the abstraction, `GenStack.tdOf st` the TemplateDict a state stands for. -/

open DTML.GenStack in
/-- `TemplateDict()` is the empty namespace at level 0 (what `dtml-with only` and a top-level call start from) -/
theorem gen_init_is_model :
    absStack initGen = ({} : St).stack ∧ initGen.level = ({} : St).level ∧ classLevelGen = ({} : St).level := by
  decide

open DTML.GenStack in
/-- `md._push(f)` is `f :: stack` -/
theorem gen_push_is_model (self : TD) (f : Frame) :
    absStack (pushGen self f) = push f (absStack self) ∧ (pushGen self f).level = self.level := by
  simp [absStack, pushGen, push]

open DTML.GenStack in
/-- `md._pop(k)` hands back the top and is `stack.drop k`, for every `k` up to the size of a non-empty namespace (every
pop of the engine follows as many pushes).  Past the size the source does something else (see `Lemmas/Stack.lean`). -/
theorem gen_pop_is_model (self : TD) (k : Nat) (hk : k ≤ self.data.length) (hne : 0 < self.data.length) :
    ∃ r td', popGen self (k : Int) = some (r, td') ∧ (absStack self).head? = some r ∧
      absStack td' = popN k (absStack self) ∧ td'.level = self.level := by
  have hl := List.getLast?_eq_some_getLast (List.length_pos_iff.mp hne)
  refine ⟨_, _, Lemmas.Stack.popGen_eq self k hk hl, ?_, ?_, rfl⟩
  · simp only [absStack, List.head?_reverse, hl]
  · simp only [absStack, popN, List.drop_reverse]

open DTML.GenStack in
/-- the hypotheses of `gen_pop_is_model` are satisfiable, and needed: `_pop()` of an empty namespace is an IndexError -/
example : (2 : Nat) ≤ (TD.mk [.bad, .dict []] 0).data.length ∧ 0 < (TD.mk [.bad, .dict []] 0).data.length := by decide
open DTML.GenStack in
example : popGen initGen popDefaultGen = none := by decide

open DTML.GenStack in
/-- pushes followed by one pop of as many: the TemplateDict is as before -/
theorem gen_push_pop_restores (self : TD) (fs : List Frame) (hne : fs ≠ []) :
    (popGen (fs.foldl pushGen self) (fs.length : Int)).map (·.2) = some self := by
  have hr := List.getLast?_eq_some_getLast (l := self.data ++ fs) (by simp [hne])
  rw [Lemmas.Stack.foldl_pushGen, Lemmas.Stack.popGen_eq _ fs.length (by simp) hr]
  simp

open DTML.GenStack in
/-- `pres_push_popn` stated with the operations of the source: data sources pushed by `_push`, something that preserves
the namespace, one `md._pop(pushed)` of as many - the namespace is as it was -/
theorem gen_pres_push_popn (st st' : St) (fs : List Frame) (hne : fs ≠ [])
    (h : Pres { st with stack := absStack (fs.reverse.foldl pushGen (tdOf st)) } st') :
    ∃ r td', popGen (tdOf st') (fs.length : Int) = some (r, td') ∧ Pres st { st' with stack := absStack td' } := by
  have hs : absStack (fs.reverse.foldl pushGen (tdOf st)) = fs ++ st.stack := by
    rw [Lemmas.Stack.foldl_pushGen]
    simp [absStack, tdOf]
  rw [hs] at h
  have hl0 : 0 < fs.length := List.length_pos_iff.mpr hne
  have hlen : fs.length ≤ (tdOf st').data.length := by
    have := congrArg List.length h.1
    simp only [List.length_map, List.length_append] at this
    simp only [tdOf, List.length_reverse]; omega
  obtain ⟨r, td', h1, _, h3, _⟩ := gen_pop_is_model (tdOf st') fs.length hlen (by omega)
  refine ⟨r, td', h1, ?_⟩
  have h4 : absStack td' = st'.stack.drop fs.length := by rw [h3]; simp [popN, absStack, tdOf]
  rw [h4]
  exact pres_push_popn st st' fs h

open DTML.GenStack in
/-- the same for one data source and `_pop()` with the default of the source -/
theorem gen_pres_push_pop (st st' : St) (f : Frame)
    (h : Pres { st with stack := absStack (pushGen (tdOf st) f) } st') :
    ∃ r td', popGen (tdOf st') popDefaultGen = some (r, td') ∧ Pres st { st' with stack := absStack td' } :=
  gen_pres_push_popn st st' [f] (List.cons_ne_nil _ _) h

end DTML.Props.C08
