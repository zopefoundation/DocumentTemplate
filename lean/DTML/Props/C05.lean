/-
C05 — Security guards mediate every read of client data; '_' names stay private.
Model: DTML/Render.lean with a guard installed (`Env.guardOn`): `frameGet` on an InstanceDict
(client objects, with-objects, pushed dtml-in items) and `evalExpr (.attr …)` ask the attribute
guard, `inLoop` (and the batched `inLoopB`) asks the item guard for every element; `Env.denied` /
`Env.deniedItems` are what the guards refuse.
The channels that read with plain getattr in the code (sequence-var-x, first-x / last-x,
statistics, sort keys) and item access inside expressions are modelled as they are (unguarded):
they are known findings, see known_findings.json; `sort_keys_ask_no_guard` states one of them of the model (`sortKeyOf`).
The loop equations are those of Lemmas/Interp and Lemmas/LoopVars; the guarded read of an attribute is
`InstanceDict.__getitem__` of the source by the obligation of Props/C02, restated at the end.
-/
import DTML.Render
import DTML.Lemmas.LoopVars
import DTML.Props.C02
import DTML.Lemmas.Interp
namespace DTML.Props.C05
open DTML.Render

/-- **Every attribute an InstanceDict reads is obtained through the guard**: for a public name that
is not already cached the guard is asked first (one `guard obj name` event, whether or not the
attribute exists); a refusal raises Unauthorized and no value is returned; otherwise the
attribute's value (or "not here"). -/
theorem instance_lookup_guarded (env : Env) (hg : env.guardOn = true) (id : Nat) (hid : id ≠ 0) (attrs cache : List (Text × Val))
    (key : Text) (tr : List Event) (hc : cache.lookup key = none) (hu : key.head? ≠ some '_') :
    frameGet env (.inst (.obj id attrs) cache) key tr =
      if isDenied env id key then (.raise (unauthorized key), tr ++ [.guard id key])
      else match attrs.lookup key with
        | some a => (.val a (.inst (.obj id attrs) (cache ++ [(key, a)])), tr ++ [.guard id key])
        | none => (.missing, tr ++ [.guard id key]) := by
  have hid' : (id != 0) = true := by simp [hid]
  rw [frameGet_inst_obj env key tr hc hu]
  simp only [hg, hid', Bool.true_and, if_true]
  split
  · rfl
  · cases attrs.lookup key <;> rfl

/-- what a lookup result hands to the template -/
def foundVal : Found → Option Val
  | .val v _ => some v
  | _ => none

/-- **Data the guard refuses never reaches the namespace**: whatever value the refused attribute
holds, the lookup yields no value at all -/
theorem denied_never_returned (env : Env) (hg : env.guardOn = true) (id : Nat) (hid : id ≠ 0) (attrs cache : List (Text × Val))
    (key : Text) (tr : List Event) (hc : cache.lookup key = none) (hu : key.head? ≠ some '_')
    (hd : isDenied env id key = true) :
    foundVal (frameGet env (.inst (.obj id attrs) cache) key tr).1 = none := by
  rw [instance_lookup_guarded env hg id hid attrs cache key tr hc hu, hd]
  rfl

/-- **Local non-interference**: two objects that agree on every attribute the guard allows are
indistinguishable through an InstanceDict: same value (or same refusal), same guard trace — the
refused attributes' values play no part -/
theorem instance_noninterference (env : Env) (hg : env.guardOn = true) (id : Nat) (hid : id ≠ 0) (a1 a2 : List (Text × Val))
    (key : Text) (tr : List Event) (hu : key.head? ≠ some '_')
    (hagree : ∀ n, isDenied env id n = false → a1.lookup n = a2.lookup n) :
    foundVal (frameGet env (.inst (.obj id a1) []) key tr).1 = foundVal (frameGet env (.inst (.obj id a2) []) key tr).1 ∧
    (frameGet env (.inst (.obj id a1) []) key tr).2 = (frameGet env (.inst (.obj id a2) []) key tr).2 := by
  rw [instance_lookup_guarded env hg id hid a1 [] key tr rfl hu, instance_lookup_guarded env hg id hid a2 [] key tr rfl hu]
  by_cases hd : isDenied env id key = true
  · simp [hd, foundVal]
  · have hd' : isDenied env id key = false := by simpa using hd
    simp only [hd', Bool.false_eq_true, if_false]
    rw [hagree key hd']
    cases a2.lookup key <;> simp [foundVal]

/-- a cached attribute was obtained through the guard when it entered the cache; the cache only
ever grows by guarded reads (`instance_lookup_guarded`), so a hit repeats an allowed value -/
theorem cache_hit_no_read (env : Env) (v : Val) (cache : List (Text × Val)) (key : Text) (c : Val) (tr : List Event)
    (hc : cache.lookup key = some c) :
    frameGet env (.inst v cache) key tr = (.val c (.inst v cache), tr) :=
  frameGet_inst_hit env key tr hc

/-- **Names starting with an underscore are never resolved from client objects** (only `__str__`
is answered, with the object's string form): the object is not read and the guard not even asked -/
theorem underscore_private (env : Env) (v : Val) (key : Text) (tr : List Event) (hu : key.head? = some '_')
    (hs : key ≠ "__str__".toList) :
    frameGet env (.inst v []) key tr = (.missing, tr) := by
  rw [frameGet_inst_private env key tr rfl hu, if_neg hs]

/-- **`e.name` in an expression goes through the guard**: one guard event, Unauthorized on refusal -/
theorem expr_attr_guarded (env : Env) (hg : env.guardOn = true) (fuel : Nat) (a : Expr) (name : Text) (st st' : St)
    (id : Nat) (attrs : List (Text × Val)) (h : evalExpr env fuel a st = (.ok (.obj id attrs), st')) :
    evalExpr env (fuel + 1) (.attr a name) st =
      (if isDenied env id name then .raise (unauthorized name)
       else match attrs.lookup name with
         | some v => .ok v
         | none => .raise ⟨"AttributeError".toList, name⟩,
       { st' with trace := st'.trace ++ [.guard id name] }) := by
  simp only [evalExpr_attr, h, andThen, hg, if_true, Bool.true_and]
  rfl

theorem expr_attr_denied (env : Env) (hg : env.guardOn = true) (fuel : Nat) (a : Expr) (name : Text) (st st' : St)
    (id : Nat) (attrs : List (Text × Val)) (h : evalExpr env fuel a st = (.ok (.obj id attrs), st'))
    (hd : isDenied env id name = true) :
    (evalExpr env (fuel + 1) (.attr a name) st).1 = .raise (unauthorized name) := by
  rw [expr_attr_guarded env hg fuel a name st st' id attrs h, hd]
  rfl

/-- **Every element dtml-in iterates over is fetched through the item guard**: with a guard installed
the loop's step for element `i` starts with the event `gitem i`; a refused element raises
Unauthorized — or, with skip_unauthorized, is skipped without its body being rendered -/
theorem in_item_guarded (env : Env) (hg : env.guardOn = true) (fuel : Nat) (sv : SeqVars) (o : InOpts) (body : List Blk)
    (i : Nat) (st : St) (hi : i < sv.items.length) :
    let st0 : St := { st with trace := st.trace ++ [.gitem 0 i] }
    (itemDenied env sv i = true → o.skipUnauth = false →
      inLoop env (fuel + 1) sv o body i st = (.raise ⟨"Unauthorized".toList, "item".toList⟩, st0)) ∧
    (itemDenied env sv i = true → o.skipUnauth = true →
      inLoop env (fuel + 1) sv o body i st = inLoop env fuel sv o body (i + 1) st0) := by
  intro st0
  have hni : ¬ i ≥ sv.items.length := by omega
  have hst : fetchItem env i st = st0 := if_pos hg
  constructor
  · intro hd hs
    simp only [inLoop_succ, loopItem, if_neg hni, hd, hs, hst, if_true, Bool.false_eq_true, if_false]
  · intro hd hs
    simp only [inLoop_succ, loopItem, if_neg hni, hd, hs, hst, if_true]

/-- **the same for a batched / sorted / reversed dtml-in** (`renderwb`): every element of the window is fetched
through the item guard — position `i` of the rearranged sequence — before anything of it is rendered; a refused element
raises Unauthorized, or with skip_unauthorized is skipped without its body being rendered -/
theorem batched_item_guarded (env : Env) (hg : env.guardOn = true) (fuel : Nat) (sv : SeqVars) (o : InOpts) (w : BWin)
    (body : List Blk) (i : Nat) (st : St) (hi : i < w.stop) :
    let st0 : St := { st with trace := st.trace ++ [.gitem 0 i] }
    (itemDenied env sv i = true → o.skipUnauth = false →
      inLoopB env (fuel + 1) sv o w body i st = (.raise ⟨"Unauthorized".toList, "item".toList⟩, st0)) ∧
    (itemDenied env sv i = true → o.skipUnauth = true →
      inLoopB env (fuel + 1) sv o w body i st =
        inLoopB env fuel (afterItem (batchStep sv w i) w i) o w body (i + 1) st0) := by
  intro st0
  have hni : ¬ i ≥ w.stop := by omega
  have hden : ∀ sv' : SeqVars, sv'.items = sv.items → itemDenied env sv' i = itemDenied env sv i := by
    intro sv' h; simp [itemDenied, h]
  have hbs : (batchStep sv w i).items = sv.items := (batchStep_fields sv w i).1
  have hst : fetchItem env i st = st0 := if_pos hg
  constructor
  · intro hd hs
    simp only [inLoopB_succ, loopItem, if_neg hni, hden _ hbs, hd, hs, hst, if_true, Bool.false_eq_true, if_false]
  · intro hd hs
    simp only [inLoopB_succ, loopItem, if_neg hni, hden _ hbs, hd, hs, hst, if_true]

/-- **finding C05-sort-key, as the model has it**: computing the sort keys of `sort=key` asks no guard — the keys are
read with plain `getattr` / `.get`, so the order of a sorted loop depends on attributes the guard would refuse
(the trace gains only the `call` events of callable keys) -/
theorem sort_keys_ask_no_guard (env : Env) (m : Bool) (k : Text) (x : Val) (st : St) :
    (sortKeyOf env m k x st).2.trace = st.trace ∨
    ∃ id, (sortKeyOf env m k x st).2.trace = st.trace ++ [.call id] := by
  unfold sortKeyOf
  dsimp only
  split
  next id r _ => exact .inr ⟨id, by split <;> rfl⟩
  all_goals exact .inl rfl

/-- a refused element's attributes cannot show up: the skipped step is independent of the element's content -/
theorem denied_item_content_irrelevant (env : Env) (sv : SeqVars) (i id : Nat) (a1 a2 : List (Text × Val))
    (pre post : List Val) (hi : i = pre.length) :
    itemDenied env { sv with items := pre ++ .obj id a1 :: post } i =
    itemDenied env { sv with items := pre ++ .obj id a2 :: post } i := by
  subst hi
  simp [itemDenied]

/-- the guards are a property of the environment of the whole call: the fresh namespace of
`dtml-with … only` is searched with the same guard -/
theorem with_only_guarded (env : Env) (hg : env.guardOn = true) (id : Nat) (hid : id ≠ 0) (attrs : List (Text × Val)) (key : Text)
    (tr : List Event) (hu : key.head? ≠ some '_') (hd : isDenied env id key = true) :
    (lookupStack env [.inst (.obj id attrs) []] key tr).1 matches .raise _ := by
  simp only [lookupStack]
  rw [instance_lookup_guarded env hg id hid attrs [] key tr rfl hu, hd]
  rfl

/-! #### the hypotheses are satisfiable -/

section Example
private def secretObj : Val := .obj 7 [("pub".toList, .str "P".toList), ("secret".toList, .str "S".toList)]
private def env : Env := { guardOn := true, denied := [(7, "secret".toList)] }
example : (renderBlk env 20 (.with_ (.name "o".toList) false false [.var (.name "pub".toList) false none none])
    { stack := [.dict [("o".toList, secretObj)]] }).2.trace = [.guard 7 "pub".toList] := by decide +kernel
private def raisedCls : Res (List Piece) → Option Text
  | .raise e => some e.cls
  | _ => none
example : raisedCls (renderBlk env 20 (.with_ (.name "o".toList) false false [.var (.name "secret".toList) false none none])
    { stack := [.dict [("o".toList, secretObj)]] }).1 = some "Unauthorized".toList := by
  decide +kernel
end Example

/-! ### The guarded read of a client attribute is the one of the source (regenerated on every run, proved in Props/C02):
the guard is asked inside `InstanceDict.__getitem__`, before the attribute is read, and a refusal propagates -/
theorem gen_guarded_lookup_is_model (env : Env) (v : Val) (cache : List (Text × Val)) (key : Text) (tr : List Event) :
    GenNs.instGetitemGen env v cache key tr = frameGet env (.inst v cache) key tr :=
  C02.gen_instancedict_getitem_is_model env v cache key tr

end DTML.Props.C05
