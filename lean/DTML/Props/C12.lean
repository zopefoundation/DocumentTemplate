/-
C12 — Batching a lazy sequence pulls only the window plus one look-ahead batch.
Model: DTML/Batch.lean (`LazySt` = SequenceFromIter with pull log; `renderwbT` =
ordered list of the accesses `renderwb` makes; `renderwobT` for unbatched), with Lemmas/Opt for the probes of `opt`.
The tie to the source, regenerated on every run: the table of accesses to `sequence` (Gen), `SequenceFromIter.__getitem__` /
`__len__` (GenCode `sfi*`), and `sequence_ensure_subscription` with the constructor of the wrapper (GenEnsure,
harness/trans_ensure.py).
-/
import DTML.Batch
import DTML.Lemmas.Opt
import DTML.GenCode
import DTML.Gen
import DTML.GenEnsure
namespace DTML.Props.C12
open DTML.Batch

/-! #### the accesses the model lists are the accesses the source makes

Extracted from /repo's source on every run (harness/consts.py): every subscript of `sequence` and every call that needs
the whole sequence (`len`, `list`, `tuple`, `sorted`, `reversed`) in `renderwb`, `renderwob` and `opt`, in source order.
`renderwbT` / `optT` / `probeT` are written for exactly these: the emptiness test `sequence[0]`, the end clamp
`sequence[end - 1]`, the look-ahead `sequence[end]` (in the `next` form and in the item loop) and `sequence[index]`;
the four probes of `opt`, each with `len(sequence)` only in its `except` branch; one more `len(sequence)` in `renderwb`
(the except branch of the end clamp) and the unconditional one of the unbatched renderer.  A new access to the whole
sequence on the batch path changes these tables and this theorem stops checking. -/
theorem gen_sequence_accesses :
    Gen.renderwb_subscripts = ["0", "end - 1", "end", "end", "index"] ∧
    Gen.renderwb_wholeSequenceCalls = ["len(sequence)"] ∧
    Gen.renderwob_subscripts = ["0", "index"] ∧
    Gen.renderwob_wholeSequenceCalls = ["len(sequence)"] ∧
    Gen.opt_subscripts = ["start - 1", "end + orphan - 1", "end - 1", "end + orphan - 1"] ∧
    Gen.opt_wholeSequenceCalls = ["len(sequence)", "len(sequence)", "len(sequence)", "len(sequence)"] :=
  ⟨rfl, rfl, rfl, rfl, rfl, rfl⟩

/-- what every state of the wrapper reached from `LazySt.init` satisfies: the log is `0 … pulled - 1`, nothing is pulled
beyond the source, and exhaustion has been seen only when everything is pulled -/
def Inv (l : LazySt) : Prop :=
  l.log = List.range l.pulled ∧
  (∀ n, l.src = some n → l.pulled ≤ n) ∧
  (l.finished = true → l.src = some l.pulled)

private theorem inv_pull1 (l : LazySt) (h : Inv l) (hf : l.finished = false) : Inv l.pull1 := by
  obtain ⟨h1, h2, h3⟩ := h
  unfold LazySt.pull1
  cases hs : l.src with
  | none => simp [Inv, h1, List.range_succ, hf]
  | some n =>
    have := h2 n hs
    by_cases hlt : l.pulled < n
    · simp [Inv, hlt, h1, List.range_succ, hf]
      omega
    · simp [Inv, hlt, h1]
      omega

private theorem pull1_src (l : LazySt) : l.pull1.src = l.src := by
  unfold LazySt.pull1
  split
  · split <;> rfl
  · rfl

/-- the invariant of a wrapper over the source `s`: no operation changes the source, so the two are kept together -/
private def InvOn (s : Option Nat) (l : LazySt) : Prop := l.src = s ∧ Inv l

private theorem invOn_init (src : Option Nat) : InvOn src (LazySt.init src) := ⟨rfl, by simp [Inv, LazySt.init]⟩

private theorem invOn_pull1 {s : Option Nat} {l : LazySt} (h : InvOn s l) (hf : l.finished = false) : InvOn s l.pull1 :=
  ⟨(pull1_src l).trans h.1, inv_pull1 l h.2 hf⟩

private theorem fill_done (l : LazySt) (idx k : Nat) (h : l.finished = true ∨ idx < l.pulled) : l.fill idx k = l := by
  cases k with
  | zero => rfl
  | succ k =>
    rw [LazySt.fill, if_neg]
    rcases h with h | h
    · simp [h]
    · simp only [Bool.and_eq_true, decide_eq_true_eq]
      omega

private theorem fill_step (l : LazySt) (idx k : Nat) (hf : l.finished = false) (hi : l.pulled ≤ idx) :
    l.fill idx (k + 1) = l.pull1.fill idx k := by
  rw [LazySt.fill, if_pos (by simp [hf, hi])]

private theorem invOn_fill {s : Option Nat} (idx fuel : Nat) : ∀ (l : LazySt), InvOn s l → InvOn s (l.fill idx fuel) := by
  induction fuel with
  | zero => intro l h; exact h
  | succ k ih =>
    intro l h
    by_cases hc : l.finished = true ∨ idx < l.pulled
    · rw [fill_done l idx _ hc]; exact h
    · have hf : l.finished = false := by simpa using mt Or.inl hc
      rw [fill_step l idx k hf (by omega)]
      exact ih _ (invOn_pull1 h hf)

private theorem invOn_get {s : Option Nat} (l : LazySt) (i : Int) (h : InvOn s l) : InvOn s (l.get i).1 := by
  unfold LazySt.get
  by_cases hi : i < 0
  · simp [hi, h]
  · simp only [hi, if_false]; exact invOn_fill _ _ l h

private theorem invOn_len {s : Option Nat} (l : LazySt) (h : InvOn s l) : InvOn s l.lenOp := by
  unfold LazySt.lenOp
  cases hs : l.src with
  | none => exact h
  | some n => exact invOn_fill _ _ l h

private theorem invOn_run {s : Option Nat} (t : List Acc) : ∀ (l : LazySt), InvOn s l → InvOn s (l.run t) := by
  induction t with
  | nil => intro l h; exact h
  | cons a t ih =>
    intro l h
    cases a with
    | get i => exact ih _ (invOn_get l i h)
    | len => exact ih _ (invOn_len l h)

private theorem inv_run (t : List Acc) : ∀ (l : LazySt), Inv l → Inv (l.run t) :=
  fun l h => (invOn_run t l ⟨rfl, h⟩).2

/-- **Pulls are sequential.**  Whatever accesses are made (any indexes, any
order, `len` calls anywhere), the iterator is pulled strictly in order, each
element at most once: the pull log is `[0, 1, …, k-1]`, and never beyond the
source's length. -/
theorem pulls_sequential (src : Option Nat) (t : List Acc) :
    let l := (LazySt.init src).run t
    l.log = List.range l.pulled ∧ (∀ n, src = some n → l.pulled ≤ n) := by
  have h := invOn_run t _ (invOn_init src)
  exact ⟨h.2.1, fun n hn => h.2.2.1 n (h.1.trans hn)⟩

/-! ### The lazy wrapper of the model is the wrapper of the source

`GenCode.sfiGetitemGen` / `sfiLenLoopGen` are regenerated on every run from `DT_Util.SequenceFromIter.__getitem__` /
`__len__` (the negative-index test, the `while not self.finished and idx >= len(self.data)` loop around
`try: self.data.append(next(self.it)) except StopIteration: self.finished = True`, the final `self.data[idx]`; the
`while not self.finished: self[len(self.data)]` loop of `__len__`).  They compute `LazySt.get` / `LazySt.lenOp`, the
functions about which `pulls_sequential`, `run_pulled` and the pull bounds are stated. -/

private theorem tryNext_eq_pull1 (l : LazySt) : GenCode.sfiTryNext l = l.pull1 := by
  unfold GenCode.sfiTryNext LazySt.next? LazySt.pull1
  cases l.src with
  | none => rfl
  | some n => by_cases h : l.pulled < n <;> simp [h]

private theorem getitemLoop_eq_fill (idx : Nat) : ∀ (fuel : Nat) (l : LazySt),
    GenCode.sfiGetitemLoopGen (idx : Int) fuel l = l.fill idx fuel := by
  intro fuel
  induction fuel with
  | zero => intro l; rfl
  | succ k ih =>
    intro l
    simp only [GenCode.sfiGetitemLoopGen, LazySt.fill, tryNext_eq_pull1, ih]
    have : decide ((idx : Int) ≥ (l.pulled : Int)) = decide (idx ≥ l.pulled) := by
      simp only [ge_iff_le, Int.ofNat_le]
    rw [this]

/-- `self[idx]` -/
theorem gen_getitem_is_model (l : LazySt) (idx : Int) :
    GenCode.sfiGetitemGen (idx.toNat + 2) l idx = l.get idx := by
  unfold GenCode.sfiGetitemGen LazySt.get
  by_cases h : idx < 0
  · simp [h]
  · simp only [h, decide_false, Bool.false_eq_true, if_false]
    have hi : idx = (idx.toNat : Int) := by omega
    rw [hi, getitemLoop_eq_fill]
    simp only [Int.toNat_natCast, Int.ofNat_lt]

private theorem pull1_progress (l : LazySt) : l.pull1.finished = true ∨ l.pulled < l.pull1.pulled := by
  unfold LazySt.pull1
  cases l.src with
  | none => exact Or.inr (Nat.lt_succ_self _)
  | some n => by_cases h : l.pulled < n <;> simp [h]

private theorem get_pulled_eq_pull1 (l : LazySt) (hf : l.finished = false) :
    (GenCode.sfiGetitemGen (l.pulled + 2) l (l.pulled : Int)).1 = l.pull1 := by
  have h := gen_getitem_is_model l (l.pulled : Int)
  rw [Int.toNat_natCast] at h
  rw [h, LazySt.get, if_neg (by omega), Int.toNat_natCast]
  -- one pull; after it either one more item is there or the iterator is exhausted
  exact (fill_step l _ _ hf (Nat.le_refl _)).trans (fill_done _ _ _ (pull1_progress l))

/-- `len(self)` on a bounded iterator: the loop of `__len__` (each round asks for the first element not yet there) ends
in the state `LazySt.lenOp` describes — everything pulled, each element once, exhaustion seen -/
theorem gen_len_is_model (n : Nat) : ∀ (fuel : Nat) (l : LazySt), Inv l → l.src = some n →
    GenCode.sfiLenLoopGen fuel l = l.fill n fuel := by
  intro fuel
  induction fuel with
  | zero => intro l _ _; rfl
  | succ k ih =>
    intro l hinv hsrc
    rw [GenCode.sfiLenLoopGen]
    by_cases hf : l.finished = true
    · rw [fill_done l n _ (Or.inl hf)]; simp [hf]
    · have hf' : l.finished = false := by simpa using hf
      rw [fill_step l n k hf' (hinv.2.1 n hsrc), get_pulled_eq_pull1 l hf']
      simp only [hf', Bool.not_false, if_true]
      exact ih _ (inv_pull1 l hinv hf') (by rw [pull1_src, hsrc])

/-- so `len()` of the source's wrapper is the model's `lenOp` (fuel `n + 2`, as there) -/
theorem gen_len_is_lenOp (n : Nat) (l : LazySt) (hinv : Inv l) (hsrc : l.src = some n) :
    GenCode.sfiLenLoopGen (n + 2) l = l.lenOp := by
  rw [gen_len_is_model n (n + 2) l hinv hsrc]
  simp [LazySt.lenOp, hsrc]

private theorem fill_pulled (n idx : Nat) : ∀ (fuel : Nat) (l : LazySt), InvOn (some n) l →
    idx + 2 ≤ l.pulled + fuel → (l.fill idx fuel).pulled = max l.pulled (min n (idx + 1)) := by
  intro fuel
  induction fuel with
  | zero =>
    intro l h hf
    simp only [LazySt.fill]
    omega
  | succ k ih =>
    intro l h hf
    have hle := h.2.2.1 n h.1
    by_cases hc : l.finished = true ∨ idx < l.pulled
    · rw [fill_done l idx _ hc]
      rcases hc with hfin | hlt
      · have := Option.some.inj ((h.2.2.2 hfin).symm.trans h.1)
        omega
      · omega
    · have hnf : l.finished = false := by simpa using mt Or.inl hc
      rw [fill_step l idx k hnf (by omega)]
      by_cases hlt : l.pulled < n
      · have hp : l.pull1.pulled = l.pulled + 1 := by simp [LazySt.pull1, h.1, hlt]
        rw [ih l.pull1 (invOn_pull1 h hnf) (by omega), hp]
        omega
      · -- exhausted: the remaining iterations do nothing
        have hp : l.pull1.pulled = l.pulled := by simp [LazySt.pull1, h.1, hlt]
        rw [fill_done _ idx k (Or.inl (by simp [LazySt.pull1, h.1, hlt])), hp]
        omega

/-- number of elements pulled from a source of `n` elements by a trace -/
def pulledBy (n : Nat) (t : List Acc) : Nat := if hasLen t then n else min n (hw t)

private theorem run_pulled_gen (n : Nat) (t : List Acc) : ∀ (l : LazySt), InvOn (some n) l →
    (l.run t).pulled = if hasLen t then n else max l.pulled (min n (hw t)) := by
  induction t with
  | nil => intro l h; simp [LazySt.run, hasLen, hw]
  | cons a t ih =>
    intro l h
    have hle := h.2.2.1 n h.1
    cases a with
    | get i =>
      simp only [LazySt.run, hasLen, hw]
      by_cases hi : i < 0
      · have : (l.get i).1 = l := by simp [LazySt.get, hi]
        rw [this, ih l h]; simp [hi]
      · have hf := fill_pulled n i.toNat (i.toNat + 2) l h (Nat.le_add_left ..)
        have hg : (l.get i).1 = l.fill i.toNat (i.toNat + 2) := by simp [LazySt.get, hi]
        rw [hg, ih _ (invOn_fill _ _ l h), hf]
        split
        · rfl
        · rw [Nat.min_max_distrib_left, Nat.max_assoc]
    | len =>
      simp only [LazySt.run, hasLen, if_true]
      have hf := fill_pulled n n (n + 2) l h (Nat.le_add_left ..)
      have hg : l.lenOp = l.fill n (n + 2) := by simp [LazySt.lenOp, h.1]
      rw [hg, ih _ (invOn_fill _ _ l h), hf]
      split <;> omega

/-- a trace run on a fresh wrapper over `n` elements pulls `pulledBy n t` of them -/
theorem run_pulled (n : Nat) (t : List Acc) :
    ((LazySt.init (some n)).run t).pulled = pulledBy n t := by
  rw [run_pulled_gen n t _ (invOn_init (some n))]
  simp [pulledBy, LazySt.init]

/-- an access is harmless w.r.t. bound `B` on a sequence of `n` elements: it
asks for an index below `B`, or the whole sequence is no longer than `B`. -/
private def okAcc (n B : Int) : Acc → Prop
  | .get i => i + 1 ≤ B ∨ n ≤ B
  | .len => n ≤ B

private theorem pulledBy_le (n : Nat) (B : Int) (t : List Acc) (hB0 : 0 ≤ B)
    (h : ∀ a ∈ t, okAcc n B a) : (pulledBy n t : Int) ≤ B := by
  by_cases hn : (n : Int) ≤ B
  · unfold pulledBy; split <;> omega
  · have hnl : hasLen t = false ∧ (hw t : Int) ≤ B := by
      induction t with
      | nil => exact ⟨rfl, hB0⟩
      | cons a t ih =>
        have iht := ih (fun a ha => h a (List.mem_cons_of_mem _ ha))
        have ha := h a List.mem_cons_self
        cases a with
        | get i =>
          simp only [okAcc] at ha
          simp only [hasLen, hw]
          refine ⟨iht.1, ?_⟩
          split <;> omega
        | len => exact absurd ha hn
    have := hnl.2
    unfold pulledBy
    simp only [hnl.1, Bool.false_eq_true, if_false]
    omega

private theorem mem_loopT (st e sz orphan overlap : Int) (s : Seq) (a : Acc) :
    ∀ (k : Nat) (idx : Int), a ∈ loopT st e sz orphan overlap s k idx →
      a ∈ linkT st e sz orphan overlap s ∨ ∃ j, a = .get j ∧ idx ≤ j ∧ j < idx + k := by
  intro k
  induction k with
  | zero => intro idx h; simp [loopT] at h
  | succ k ih =>
    intro idx h
    simp only [loopT, List.mem_append, List.mem_singleton] at h
    rcases h with (h | h) | h
    · left
      split at h
      · exact h
      · simp at h
    · exact .inr ⟨idx, h, by omega, by omega⟩
    · rcases ih _ h with h | ⟨j, hj, h1, h2⟩
      · exact .inl h
      · exact .inr ⟨j, hj, by omega, by omega⟩

/-- a probe at a non-negative index that is below the bound is harmless whether it succeeds or not: when it fails, the
sequence ends before the index -/
private theorem probeT_ok (s : Seq) (i B : Int) (h0 : 0 ≤ i) (h : i + 1 ≤ B ∨ s.len ≤ B) :
    ∀ a ∈ probeT s i, okAcc s.len B a := by
  intro a ha
  simp only [probeT, probe_nonneg s i h0, decide_eq_true_eq] at ha
  split at ha
  · cases List.mem_singleton.mp ha; exact h
  · simp only [List.mem_cons, List.not_mem_nil, or_false] at ha
    rcases ha with rfl | rfl
    · exact h
    · show s.len ≤ B; omega

/-! every access is harmless: the probes of `opt` mode by mode (Lemmas/Opt has the result and the probes of each mode), those
of the clamp, of the links and of the whole rendering -/

private theorem renderwbT_eq (start end_ size orphan overlap : Int) (s : Seq) :
    renderwbT start end_ size orphan overlap s =
      if probe s 0 then
        [.get 0] ++ (windowT start end_ size orphan s).2 ++
          loopT (window start end_ size orphan s).1 (window start end_ size orphan s).2.1
            (window start end_ size orphan s).2.2 orphan overlap s
            ((window start end_ size orphan s).2.1 - ((window start end_ size orphan s).1 - 1)).toNat
            ((window start end_ size orphan s).1 - 1)
      else [.get 0] := by
  rw [← windowT_result]; rfl

private theorem optT_ok (start end_ size orphan : Int) (s : Seq)
    (hl : 1 ≤ s.len) (ho : 0 ≤ orphan) (B : Int)
    (hB : B = (window start end_ size orphan s).2.1 + (window start end_ size orphan s).2.2 + orphan) :
    ∀ a ∈ (optT start end_ size orphan s).2, okAcc s.len B a := by
  have hz := effSize_pos start end_ size
  rw [window_eq _ _ _ _ _ hl ho] at hB
  by_cases hb : 0 < end_
  · by_cases ha : 0 < start
    · rw [optT_span _ _ _ _ _ ha hb]
      rw [opt_span _ _ _ _ _ ha hb] at hB
      exact probeT_ok s _ B (by omega) (by simp only at hB; omega)
    · rw [optT_upto _ _ _ _ _ (Int.not_lt.mp ha) hb]
      rw [opt_upto _ _ _ _ _ (Int.not_lt.mp ha) hb] at hB
      exact probeT_ok s _ B (by omega) (by simp only at hB; omega)
  · rw [optT_from _ _ _ _ _ (Int.not_lt.mp hb)]
    rw [opt_from _ _ _ _ _ (Int.not_lt.mp hb) hl ho] at hB ⊢
    simp only at hB ⊢
    refine List.forall_mem_append.mpr ⟨?_, probeT_ok s _ B (by omega) (by omega)⟩
    split
    · exact probeT_ok s _ B (by omega) (by omega)
    · nofun

private theorem windowT_ok (start end_ size orphan : Int) (s : Seq)
    (hl : 1 ≤ s.len) (ho : 0 ≤ orphan) (B : Int)
    (hB : B = (window start end_ size orphan s).2.1 + (window start end_ size orphan s).2.2 + orphan) :
    ∀ a ∈ (windowT start end_ size orphan s).2, okAcc s.len B a := by
  have hf := opt_range start end_ size orphan s hl ho
  rw [windowT_trace]
  refine List.forall_mem_append.mpr ⟨optT_ok start end_ size orphan s hl ho B hB, probeT_ok s _ B (by omega) ?_⟩
  rw [window_eq _ _ _ _ _ hl ho] at hB
  simp only at hB
  omega

private theorem link_ok (st e sz orphan overlap B : Int) (s : Seq)
    (h1 : 1 ≤ st) (h2 : st ≤ e) (h3 : e ≤ s.len) (ho : 0 ≤ orphan) (hov : 0 ≤ overlap)
    (hsz : 1 ≤ sz) (hB : B = e + sz + orphan) (hD : st - 1 + overlap ≤ B) :
    ∀ a ∈ linkT st e sz orphan overlap s, okAcc s.len B a := by
  unfold linkT
  refine List.forall_mem_append.mpr ⟨List.forall_mem_append.mpr ⟨?_, ?_⟩, ?_⟩
  · split
    · rw [optT_upto _ _ _ _ _ (Int.le_refl 0) (by omega)]
      exact probeT_ok s _ B (by omega) (by omega)
    · nofun
  · intro a ha
    cases List.mem_singleton.mp ha
    exact Or.inl (by omega)
  · split
    · rw [optT_from _ _ _ _ _ (Int.le_refl 0), opt_from_start _ _ _ _ _ (Int.le_refl 0) (by omega),
        effSize_of_pos _ _ _ hsz]
      refine List.forall_mem_append.mpr ⟨?_, probeT_ok s _ B (by omega) (by omega)⟩
      split
      · exact probeT_ok s _ B (by omega) (by omega)
      · nofun
    · nofun

private theorem renderwbT_ok (start end_ size orphan overlap : Int) (s : Seq)
    (hl : 1 ≤ s.len) (ho : 0 ≤ orphan) (hov : 0 ≤ overlap) (B : Int)
    (hB : B = (window start end_ size orphan s).2.1 + (window start end_ size orphan s).2.2 + orphan)
    (hD : (window start end_ size orphan s).1 - 1 + overlap ≤ B) :
    ∀ a ∈ renderwbT start end_ size orphan overlap s, okAcc s.len B a := by
  have hw := window_range start end_ size orphan s hl ho
  rw [renderwbT_eq, if_pos (by simp [probe]; omega)]
  refine List.forall_mem_append.mpr ⟨List.forall_mem_append.mpr ⟨?_, windowT_ok start end_ size orphan s hl ho B hB⟩, ?_⟩
  · intro a ha
    cases List.mem_singleton.mp ha
    exact Or.inl (by omega)
  · intro a ha
    rcases mem_loopT _ _ _ _ _ _ a _ _ ha with h | ⟨j, rfl, hj1, hj2⟩
    · exact link_ok _ _ _ _ _ B s hw.1 hw.2.1 hw.2.2.1 ho hov hw.2.2.2 hB hD a h
    · exact Or.inl (by omega)

/-- **Pull bound (partial).**  A batched `dtml-in` over a lazily produced
sequence of `n` elements pulls at most `end + size + orphan` of them (the end
of the displayed window plus one look-ahead batch), for every parameter tuple,
*provided* `start - 1 + overlap ≤ end + size + orphan`.

`_partial`: the side condition excludes exactly the region where the property
is false on this code base (known finding C12-overlap: the *previous*-batch
probe `sequence[first+overlap-1]` looks `overlap` elements ahead of the window
start; witness below). -/
theorem batch_pull_bound_partial (start end_ size orphan overlap : Int) (s : Seq) (n : Nat)
    (hn : s.len = n) (hl : 1 ≤ s.len) (ho : 0 ≤ orphan) (hov : 0 ≤ overlap)
    (hD : (window start end_ size orphan s).1 - 1 + overlap ≤
          (window start end_ size orphan s).2.1 + (window start end_ size orphan s).2.2 + orphan) :
    (((LazySt.init (some n)).run (renderwbT start end_ size orphan overlap s)).pulled : Int) ≤
      (window start end_ size orphan s).2.1 + (window start end_ size orphan s).2.2 + orphan := by
  rw [run_pulled]
  have hw := window_range start end_ size orphan s hl ho
  apply pulledBy_le
  · omega
  · rw [← hn]
    exact renderwbT_ok start end_ size orphan overlap s hl ho hov _ rfl hD

/-- The excluded region is real (finding C12-overlap): `start=2 size=1 overlap=3`
on 4 elements pulls all 4, the bound is 3. -/
theorem finding_C12_overlap :
    ((LazySt.init (some 4)).run (renderwbT 2 0 1 0 3 ⟨4, true⟩)).pulled = 4 ∧
    (window 2 0 1 0 ⟨4, true⟩).2.1 + (window 2 0 1 0 ⟨4, true⟩).2.2 + 0 = 3 := by decide

/-- Non-vacuity of the side condition and the bound: 100 elements, `start=3 size=4
orphan=1 overlap=1` pulls 3+4-1 + 4 + 1 - 1 = 10 ≤ 6 + 4 + 1. -/
example : ((LazySt.init (some 100)).run (renderwbT 3 0 4 1 1 ⟨100, true⟩)).pulled = 10 := by decide

private theorem hasLen_mem (t : List Acc) : hasLen t = true → Acc.len ∈ t := by
  induction t with
  | nil => simp [hasLen]
  | cons a t ih =>
    cases a with
    | get i => exact fun h => List.mem_cons_of_mem _ (ih h)
    | len => intro _; exact List.mem_cons_self

/-- in a trace, `len(sequence)` occurs only where a probe of the same trace has failed -/
private def LenJustified (s : Seq) (t : List Acc) : Prop :=
  Acc.len ∈ t → ∃ i, Acc.get i ∈ t ∧ probe s i = false

private theorem justified_append {s : Seq} {t u : List Acc} (ht : LenJustified s t) (hu : LenJustified s u) :
    LenJustified s (t ++ u) := by
  intro h
  rcases List.mem_append.mp h with h | h
  · obtain ⟨i, h1, h2⟩ := ht h; exact ⟨i, List.mem_append_left _ h1, h2⟩
  · obtain ⟨i, h1, h2⟩ := hu h; exact ⟨i, List.mem_append_right _ h1, h2⟩

private theorem justified_ite {s : Seq} {t u : List Acc} {c : Prop} [Decidable c] (ht : LenJustified s t)
    (hu : LenJustified s u) : LenJustified s (if c then t else u) := by
  split <;> assumption

private theorem justified_nil (s : Seq) : LenJustified s [] := nofun

private theorem justified_get (s : Seq) (i : Int) : LenJustified s [.get i] := fun h => by simp at h

private theorem justified_probeT (s : Seq) (i : Int) : LenJustified s (probeT s i) := by
  unfold LenJustified probeT
  cases h : probe s i
  · exact fun _ => ⟨i, List.mem_cons_self, h⟩
  · simp

private theorem justified_optT (a b c d : Int) (s : Seq) : LenJustified s (optT a b c d s).2 := by
  by_cases hb : 0 < b
  · by_cases ha : 0 < a
    · rw [optT_span _ _ _ _ _ ha hb]; exact justified_probeT _ _
    · rw [optT_upto _ _ _ _ _ (Int.not_lt.mp ha) hb]; exact justified_probeT _ _
  · rw [optT_from _ _ _ _ _ (Int.not_lt.mp hb)]
    exact justified_append (justified_ite (justified_probeT _ _) (justified_nil s)) (justified_probeT _ _)

private theorem justified_linkT (st e sz orphan overlap : Int) (s : Seq) : LenJustified s (linkT st e sz orphan overlap s) :=
  justified_append (justified_append (justified_ite (justified_optT _ _ _ _ _) (justified_nil s)) (justified_get s e))
    (justified_ite (justified_optT _ _ _ _ _) (justified_nil s))

private theorem justified_loopT (st e sz orphan overlap : Int) (s : Seq) : ∀ (k : Nat) (idx : Int),
    LenJustified s (loopT st e sz orphan overlap s k idx)
  | 0, _ => justified_nil s
  | k + 1, idx =>
    justified_append (justified_append (justified_ite (justified_linkT _ _ _ _ _ _) (justified_nil s)) (justified_get s idx))
      (justified_loopT st e sz orphan overlap s k (idx + 1))

set_option linter.unusedVariables false in
/-- `len(sequence)` is called by a batched render only after a probe beyond
the end of the sequence failed. -/
theorem len_only_after_failed_probe (start end_ size orphan overlap : Int) (s : Seq)
    (hl : 1 ≤ s.len) (ho : 0 ≤ orphan) :
    Acc.len ∈ renderwbT start end_ size orphan overlap s →
    ∃ i, Acc.get i ∈ renderwbT start end_ size orphan overlap s ∧ probe s i = false := by
  rw [renderwbT_eq, windowT_trace]
  exact justified_ite (justified_append (justified_append (justified_get s 0)
    (justified_append (justified_optT _ _ _ _ _) (justified_probeT _ _))) (justified_loopT _ _ _ _ _ _ _ _)) (justified_get s 0)

/-- Consequently, when no probe fails (in particular on an unbounded iterator,
where every index exists) the length is never asked for and the render — a
total function in the model — terminates. -/
theorem unbounded_no_len (start end_ size orphan overlap : Int) (s : Seq)
    (hl : 1 ≤ s.len) (ho : 0 ≤ orphan)
    (hall : ∀ i, Acc.get i ∈ renderwbT start end_ size orphan overlap s → probe s i = true) :
    hasLen (renderwbT start end_ size orphan overlap s) = false := by
  cases h : hasLen (renderwbT start end_ size orphan overlap s) with
  | false => rfl
  | true =>
    obtain ⟨i, h1, h2⟩ := len_only_after_failed_probe start end_ size orphan overlap s hl ho
      (hasLen_mem _ h)
    rw [hall i h1] at h2; cases h2

/-- **Unbatched rendering pulls every element exactly once, in order.** -/
theorem unbatched_pulls_all_once (n : Nat) :
    ((LazySt.init (some n)).run (renderwobT ⟨n, true⟩)).log = List.range n := by
  have h := pulls_sequential (some n) (renderwobT ⟨n, true⟩)
  rw [h.1, run_pulled]
  congr 1
  unfold pulledBy renderwobT probe
  by_cases hn : n = 0
  · subst hn; simp [hasLen, hw]
  · have : 0 < n := by omega
    simp [this, hasLen]

example : ((LazySt.init (some 3)).run (renderwobT ⟨3, true⟩)).log = [0, 1, 2] := by decide

/-! ### Which objects are wrapped, and what the wrapper starts with

`GenEnsure.supportsGen` / `ensureGen` / `sfiInitGen` are regenerated on every run from
`DT_Util.sequence_supports_subscription` (the `hasattr` tests in their source order, with their `and` / `or` / `not`
and the attribute names as written; the `hasattr` facts themselves asked of real objects of every kind),
`sequence_ensure_subscription` (`return obj` / `return SequenceFromIter(iter(obj))`) and the class attributes and
`__init__` of `SequenceFromIter`.  They compute the model's classification `SeqKind.listLike`, `Batch.ensure`, and
`LazySt.init` - the state every pull theorem above starts from. -/

/-- `sequence_supports_subscription(obj)`, for every kind of object -/
theorem gen_supports_subscription_is_model (k : SeqKind) : GenEnsure.supportsGen k = k.listLike := by
  cases k <;> rfl

/-- `SequenceFromIter(it)`: nothing pulled, nothing logged, not finished -/
theorem gen_sfi_init_is_model (src : Option Nat) : GenEnsure.sfiInitGen src = LazySt.init src := rfl

/-- `sequence_ensure_subscription(obj)`: list-like objects as they are, everything else through a fresh wrapper -/
theorem gen_ensure_is_model (k : SeqKind) (src : Option Nat) : GenEnsure.ensureGen k src = ensure k src := by
  cases k <;> rfl

/-- exactly the objects that are not list-like are wrapped -/
theorem gen_ensure_wraps_iff (k : SeqKind) (src : Option Nat) :
    (∃ l, GenEnsure.ensureGen k src = .wrapped l) ↔ k.listLike = false := by
  rw [gen_ensure_is_model]
  unfold ensure
  cases h : k.listLike <;> simp

/-- **A freshly wrapped iterator has pulled nothing**: whatever the source wraps starts as `LazySt.init` of its
iterator - empty `data`, empty pull log, `finished` unset -, which satisfies the invariant of the wrapper -/
theorem gen_fresh_wrapper_pulled_nothing (k : SeqKind) (src : Option Nat) (l : LazySt)
    (h : GenEnsure.ensureGen k src = .wrapped l) :
    l = LazySt.init src ∧ l.pulled = 0 ∧ l.log = [] ∧ l.finished = false ∧ Inv l := by
  rw [gen_ensure_is_model] at h
  unfold ensure at h
  cases hk : k.listLike
  · simp only [hk, Bool.false_eq_true, if_false, Ensured.wrapped.injEq] at h
    subst h
    exact ⟨rfl, rfl, rfl, rfl, (invOn_init src).2⟩
  · simp [hk] at h

/-- the first subscription of what the source wrapped is the model's `get` on the initial state (the translated
`__getitem__` on the translated `__init__`) -/
theorem gen_getitem_on_fresh_wrapper (k : SeqKind) (src : Option Nat) (l : LazySt)
    (h : GenEnsure.ensureGen k src = .wrapped l) (idx : Int) :
    GenCode.sfiGetitemGen (idx.toNat + 2) l idx = (LazySt.init src).get idx := by
  rw [(gen_fresh_wrapper_pulled_nothing k src l h).1, gen_getitem_is_model]

/-- so whatever accesses follow the wrapping, the iterator of the wrapped object is pulled strictly in order, each
element at most once, never beyond what it yields (`pulls_sequential`, from the state the source really starts in) -/
theorem gen_wrapped_pulls_sequential (k : SeqKind) (src : Option Nat) (l : LazySt)
    (h : GenEnsure.ensureGen k src = .wrapped l) (t : List Acc) :
    (l.run t).log = List.range (l.run t).pulled ∧ (∀ n, src = some n → (l.run t).pulled ≤ n) := by
  rw [(gen_fresh_wrapper_pulled_nothing k src l h).1]
  exact pulls_sequential src t

example : GenEnsure.ensureGen .generator (some 3) = .wrapped (LazySt.init (some 3)) := by decide
example : GenEnsure.ensureGen .dict (some 2) = .wrapped (LazySt.init (some 2)) := by decide
example : GenEnsure.ensureGen .tuple (some 2) = .asIs := by decide

end DTML.Props.C12
