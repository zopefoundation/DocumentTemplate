/-
C01 — Text outside tags is reproduced verbatim, in order, and rendering composes.
In the order of the file: the scanners and the tokeniser never drop, alter or duplicate text (DTML/Scan.lean), and the
line-end skipping of block tags (DTML/Parse.lean); the block builder keeps every literal, in order, also for a document
printed from its items; rendering emits literals verbatim, in order; rendering composes over concatenated block lists; then
the obligations on the code translated from the source on every run: the HTML scanner (GenScan), the main loop of
`render_blocks_` (GenJoin) and the main loop of `String.parse` (GenParseLoop).
-/
import DTML.Scan
import DTML.Parse
import DTML.Render
import DTML.Lemmas.Interp
import DTML.Lemmas.Fuel
import DTML.Lemmas.Scanner
import DTML.Lemmas.Builder
import DTML.Lemmas.Print
import DTML.Lemmas.ScanGen
import DTML.GenJoin
import DTML.GenParseLoop
import DTML.Lemmas.ParseLoop
import DTML.Lemmas.Join
namespace DTML.Props.C01
open DTML.Scan DTML.Parse

/-- a tag found by the HTML scanner is a prefix of the text it was found at -/
theorem candidate_text (s : Text) (len : Nat) (tk : Tok) (h : candidate s = .tok len tk) :
    tk.text = s.take len :=
  (Lemmas.Scanner.candidate_tok s len tk h).1

theorem matchEpfs_text (s : Text) (len : Nat) (tk : Tok) (h : matchEpfs s = some (len, tk)) :
    tk.text = s.take len :=
  (Lemmas.Scanner.matchEpfs_tok s len tk h).1

/-- **One search step loses nothing**: the literal before the tag, the tag's own
text and the remaining text, concatenated, are the text searched. -/
theorem scan_reconstruct (syn : Syntax) (s lit rest : Text) (tk : Tok)
    (h : scan syn s = some (lit, tk, rest)) : lit ++ tk.text ++ rest = s :=
  (Lemmas.Scanner.scan_some syn s lit rest tk h).1

/-- the text a token list stands for: literals and tag texts in order, then the tail -/
def flatten (ps : List (Text × Tok)) (tl : Text) : Text :=
  (ps.flatMap fun (l, t) => l ++ t.text) ++ tl

theorem flatten_cons (l : Text) (t : Tok) (ps : List (Text × Tok)) (tl : Text) :
    flatten ((l, t) :: ps) tl = (l ++ t.text) ++ flatten ps tl := by
  simp only [flatten, List.flatMap_cons, List.append_assoc]

/-- **The tokeniser is lossless**: the literals and the tags' own texts, in order,
followed by the trailing literal, are exactly the source — whatever the source is.
Nothing is dropped, altered, duplicated or reordered, and every tag text is the
slice of the source it was found at. -/
theorem tokens_reconstruct (syn : Syntax) : ∀ (fuel : Nat) (s : Text),
    flatten (tokensAux syn fuel s).1 (tokensAux syn fuel s).2 = s := by
  intro fuel s
  fun_induction tokensAux syn fuel s with
  | case1 s => rfl
  | case2 n s hs => rfl
  | case3 n s lit tk rest hs ps tl heq ih =>
    rw [heq] at ih
    rw [flatten_cons, ih, scan_reconstruct syn s lit rest tk hs]

theorem tokens_lossless (syn : Syntax) (src : Text) :
    flatten (tokens syn src).1 (tokens syn src).2 = src := tokens_reconstruct syn _ src

/-- `skip_eol` removes nothing but one run of blanks and tabs ending in a newline
(or nothing at all) -/
theorem skipEol_spec (s : Text) :
    ∃ d, s = d ++ skipEol s ∧
      (d = [] ∨ ∃ b, d = b ++ ['\n'] ∧ ∀ c ∈ b, c = ' ' ∨ c = '\t') := by
  unfold skipEol
  simp (config := {zeta := true}) only
  split
  next t ht =>
    refine ⟨s.takeWhile (fun c => c = ' ' || c = '\t') ++ ['\n'], ?_, Or.inr ⟨_, rfl, ?_⟩⟩
    · have := List.takeWhile_append_dropWhile (p := fun c => decide (c = ' ') || decide (c = '\t')) (l := s)
      rw [ht] at this
      simp only [List.append_assoc, List.singleton_append]
      exact this.symm
    · intro c hc
      have := List.all_eq_true.mp List.all_takeWhile c hc
      simpa using this
  · exact ⟨[], rfl, Or.inl rfl⟩

/-- **A source without tags compiles to itself**: when the scanner finds no tag, the
compiled template is the single literal `src` (nothing for the empty source). -/
theorem tagfree_identity (syn : Syntax) (src : Text) (h : scan syn src = none) :
    ∃ out, compile syn src = .ok out ∧
      (match out.nodes with
       | [] => src = []
       | [.lit s] => s = src
       | _ => False) ∧ out.exprs = [] := by
  have ht : tokens syn src = ([], src) := by
    simp [tokens, tokensAux, h]
  unfold compile
  rw [ht]
  simp only [buildAux, Bool.false_eq_true, if_false]
  refine ⟨_, rfl, ?_, rfl⟩
  cases src with
  | nil => simp [litNode]
  | cons c t => simp [litNode]


/-! ### the block builder keeps every literal, in order

The compiled tree's literal nodes, read left to right through all nesting, are exactly the
literals between the tags (and the trailing text), each either unchanged or with one line end
skipped (`skipEol`), empty ones left out.  Nothing else is ever a literal node. -/

mutual
/-- the literal texts of a node, in document order -/
def nodeLits : Node → List Text
  | .lit s => [s]
  | .simple _ _ _ => []
  | .block _ _ secs => secsLits secs
def secsLits : List (Section Node) → List Text
  | [] => []
  | s :: t => nodesLits s.body ++ secsLits t
def nodesLits : List Node → List Text
  | [] => []
  | n :: t => nodeLits n ++ nodesLits t
end

theorem nodesLits_append (a b : List Node) : nodesLits (a ++ b) = nodesLits a ++ nodesLits b := by
  induction a with
  | nil => simp [nodesLits]
  | cons x t ih => simp [nodesLits, ih]

theorem secsLits_append (a b : List (Section Node)) : secsLits (a ++ b) = secsLits a ++ secsLits b := by
  induction a with
  | nil => simp [secsLits]
  | cons x t ih => simp [secsLits, ih]

/-- a literal that is not empty -/
def ne (l : Text) : List Text := if l.isEmpty then [] else [l]

theorem nodesLits_litNode (l : Text) : nodesLits (litNode l) = ne l := by
  unfold litNode ne
  split <;> simp [nodesLits, nodeLits]

/-- literals of an open block, in order: finished sections, then the section being read -/
def frameLits (f : Frame) : List Text := secsLits f.done ++ nodesLits f.cur.reverse

/-- literals collected so far: top level first, then the open blocks from the outermost inwards -/
def soFar (stack : List Frame) (top : List Node) : List Text :=
  nodesLits top.reverse ++ (stack.reverse.map frameLits).flatten

theorem soFar_cons (f : Frame) (stack : List Frame) (top : List Node) :
    soFar (f :: stack) top = soFar stack top ++ frameLits f := by
  simp [soFar, List.append_assoc]

theorem soFar_pushNodes (ns : List Node) (stack : List Frame) (top : List Node) :
    soFar (pushNodes ns stack top).1 (pushNodes ns stack top).2 = soFar stack top ++ nodesLits ns := by
  cases stack with
  | nil => simp [pushNodes, soFar, nodesLits_append]
  | cons f fs =>
    simp [pushNodes, soFar, frameLits, nodesLits_append, List.append_assoc]

/-- the literal a token contributes: a line end is skipped when it directly follows a block tag -/
def adj (b : Bool) (l : Text) : Text := if b then skipEol l else l

/-- the first literal of a source is never touched -/
theorem adj_false (l : Text) : adj false l = l := rfl

/-- the literals expected from a token stream, given for every literal whether it follows a block tag -/
def expectLits : List Bool → List Text → List Text
  | b :: bs, l :: ls => ne (adj b l) ++ expectLits bs ls
  | _, _ => []

theorem expectLits_cons (b : Bool) (bs : List Bool) (l : Text) (ls : List Text) :
    expectLits (b :: bs) (l :: ls) = ne (adj b l) ++ expectLits bs ls := rfl

/-- one token: the builder collects the literal before the tag (an empty one is left out); what it does with the tag
moves nodes between the open sections and the finished ones, in order -/
theorem stepTok_lits (syn : Syntax) (σ : C06.BState) (p : Text × Tok) :
    match C06.stepTok syn σ p with
    | .ok σ' => soFar σ'.stack σ'.top = soFar σ.stack σ.top ++ ne (adj σ.aft p.1)
    | .error _ => True := by
  simp only [C06.stepTok]
  rw [show (if σ.aft = true then skipEol p.1 else p.1) = adj σ.aft p.1 from rfl]
  cases tagRole syn p.2 (σ.stack.head?.map fun f => (f.cmd, f.sargs)) with
  | error e => trivial
  | ok role =>
    cases role with
    | start cmd args =>
      dsimp only
      by_cases hb : cmd.isBlock = true
      · rw [if_pos hb]
        dsimp only
        rw [soFar_cons, soFar_pushNodes, nodesLits_litNode]
        simp [frameLits, secsLits, nodesLits]
      · rw [if_neg hb]
        cases checkSimple cmd args with
        | error e => trivial
        | ok b =>
          dsimp only
          rw [soFar_pushNodes, nodesLits_append, nodesLits_litNode]
          simp [nodesLits, nodeLits]
    | cont name args =>
      cases σ.stack with
      | nil => trivial
      | cons f fs =>
        dsimp only
        rw [soFar_cons, soFar_cons]
        simp only [frameLits, secsLits_append, secsLits, List.reverse_append, List.reverse_reverse, nodesLits_append,
          nodesLits_litNode, List.reverse_nil, nodesLits, List.append_nil, List.append_assoc]
    | close args =>
      cases σ.stack with
      | nil => trivial
      | cons f fs =>
        dsimp only
        cases checkBlock f.cmd _ with
        | error e => trivial
        | ok b =>
          dsimp only
          rw [soFar_pushNodes, soFar_cons]
          simp only [frameLits, nodesLits, nodeLits, secsLits_append, secsLits, List.reverse_append, List.reverse_reverse,
            nodesLits_append, nodesLits_litNode, List.append_nil, List.append_assoc]

/-- **Builder invariant**: whatever state the builder is in, if it finishes, the tree's literals
are the ones collected so far followed by the remaining token literals and the tail, each
unchanged or with one skipped line end, in order. -/
theorem buildAux_lits (syn : Syntax) : ∀ (ps : List (Text × Tok)) (tail : Text) (idx : Nat) (afterBT : Bool)
    (stack : List Frame) (top : List Node) (exprs : List ExprUse) (out : Out),
    buildAux syn ps tail idx afterBT stack top exprs = .ok out →
    ∃ bs : List Bool, bs.length = ps.length ∧
      nodesLits out.nodes = soFar stack top ++ expectLits (afterBT :: bs) (ps.map (·.1) ++ [tail]) := by
  intro ps
  induction ps with
  | nil =>
    intro tail idx afterBT stack top exprs out h
    simp only [buildAux] at h
    cases stack with
    | cons f fs => cases h
    | nil =>
      simp only [Except.ok.injEq] at h
      subst h
      refine ⟨[], rfl, ?_⟩
      simp only [List.reverse_append, List.reverse_reverse, nodesLits_append, soFar, List.reverse_nil, List.map_nil,
        List.flatten_nil, List.append_nil, List.nil_append, expectLits, adj]
      rw [nodesLits_litNode]
  | cons p rest ih =>
    intro tail idx afterBT stack top exprs out h
    rw [C06.buildAux_cons syn p rest tail ⟨idx, afterBT, stack, top, exprs⟩] at h
    cases hs : C06.stepTok syn ⟨idx, afterBT, stack, top, exprs⟩ p with
    | error e => rw [hs] at h; cases h
    | ok σ' =>
      have hstep := stepTok_lits syn ⟨idx, afterBT, stack, top, exprs⟩ p
      rw [hs] at h hstep
      obtain ⟨bs, hl, he⟩ := ih tail _ _ _ _ _ out h
      refine ⟨σ'.aft :: bs, by rw [List.length_cons, hl, List.length_cons], ?_⟩
      rw [he, hstep, List.append_assoc]
      rfl

/-- **Compiling keeps every literal, verbatim and in order.**  If a source compiles, the literal
nodes of the compiled tree (read in document order through all nesting) are exactly the texts
between its tags followed by the trailing text — each either unchanged or with one run of blanks
ending in a newline removed from its start (`skipEol`, only ever applied right after a tag), empty
ones omitted.  Together with `tokens_lossless` (texts and tags, concatenated, are the source) and
`skipEol_spec` this is: nothing outside tags is altered, duplicated, reordered or dropped except
such a line end. -/
theorem compile_literals (syn : Syntax) (src : Text) (out : Out) (h : compile syn src = .ok out) :
    ∃ bs : List Bool, bs.length = (tokens syn src).1.length ∧
      nodesLits out.nodes = expectLits (false :: bs) ((tokens syn src).1.map (·.1) ++ [(tokens syn src).2]) :=
  -- the invariant at the start, where nothing has been collected: `soFar [] [] = []`
  buildAux_lits syn (tokens syn src).1 (tokens syn src).2 0 false [] [] [] out h


/-! #### the same from the source text itself: printed documents -/

section Printed
open DTML.Lemmas.Print

/-- **The scanner finds exactly the tags that were written, and the text between them comes back
verbatim**: a document printed from (literal, tag) items — literals free of `<` and `&`, names of
letters, stripped arguments with every `>` inside a quoted string — is cut into exactly these
literals and tags, with the trailing text left over. -/
theorem printed_document_tokens (items : List Item) (tail : Text) (hw : ∀ i ∈ items, WfDtml i) (ht : CleanLit tail) :
    (tokens .html (printDoc printDtml items tail)).1.map (·.1) = items.map (·.lit) ∧
    (tokens .html (printDoc printDtml items tail)).1.map (·.2.text) = items.map printDtml ∧
    (tokens .html (printDoc printDtml items tail)).2 = tail := by
  rw [tokens_dtml items tail hw ht]
  simp [tokOf, Function.comp_def]

/-- **… and the compiled tree's literal nodes are these literals, in order** (each unchanged, or
with the one line end after a block tag removed; empty ones omitted) -/
theorem printed_document_literals (items : List Item) (tail : Text) (hw : ∀ i ∈ items, WfDtml i) (ht : CleanLit tail)
    (out : Out) (h : compile .html (printDoc printDtml items tail) = .ok out) :
    ∃ bs : List Bool, bs.length = items.length ∧
      nodesLits out.nodes = expectLits (false :: bs) (items.map (·.lit) ++ [tail]) := by
  obtain ⟨bs, hl, he⟩ := compile_literals .html _ out h
  obtain ⟨h1, _, h3⟩ := printed_document_tokens items tail hw ht
  refine ⟨bs, ?_, ?_⟩
  · rw [hl, ← List.length_map (f := (·.1)), h1, List.length_map]
  · rw [he, h1, h3]

end Printed

/-! ### rendering emits literals verbatim, in order, once per rendering of their block -/

section Rendering

open DTML.Render

/-- **A literal block renders to itself**, touching nothing -/
theorem lit_verbatim (env : Env) (fuel : Nat) (s : Render.Text) (st : St) :
    renderBlk env (fuel + 1) (.lit s) st = (.ok (if s.isEmpty then [] else [.text s]), st) := by
  unfold renderBlk
  simp [pieceEmpty]

theorem lit_nonempty (env : Env) (fuel : Nat) (s : Render.Text) (st : St) (hs : s ≠ []) :
    renderBlk env (fuel + 1) (.lit s) st = (.ok [.text s], st) := by
  rw [lit_verbatim, List.isEmpty_eq_false_iff.mpr hs]
  rfl

/-- **Blocks are rendered in source order and their outputs appended in that order**, nothing
else is inserted between them -/
theorem blocks_in_order (env : Env) (fuel : Nat) (b : Blk) (rest : List Blk) (st st1 st2 : St)
    (ps qs : List Piece)
    (hb : renderBlk env fuel b st = (.ok ps, st1)) (hr : renderBlocks env fuel rest st1 = (.ok qs, st2)) :
    renderBlocks env (fuel + 1) (b :: rest) st = (.ok (ps ++ qs), st2) := by
  simp only [renderBlocks, hb, hr]

/-- text before a tag comes out before the tag's insertion, text after it after -/
theorem literal_around (env : Env) (fuel : Nat) (a c : Render.Text) (b : Blk) (st st1 : St) (ps : List Piece)
    (ha : a ≠ []) (hc : c ≠ [])
    (hb : renderBlk env (fuel + 2) b st = (.ok ps, st1)) :
    renderBlocks env (fuel + 4) [.lit a, b, .lit c] st = (.ok (.text a :: ps ++ [.text c]), st1) := by
  have r3 := blocks_in_order env (fuel + 1) (.lit c) [] st1 st1 st1 _ [] (lit_nonempty env fuel c st1 hc) rfl
  have r2 := blocks_in_order env (fuel + 2) b _ st st1 st1 ps _ hb r3
  exact blocks_in_order env (fuel + 3) (.lit a) _ st st st1 [.text a] _ (lit_nonempty env (fuel + 2) a st ha) r2

/-- **A source without tags renders to itself** (model side: its compiled form is the single
literal, `tagfree_identity`; here: that template's call returns exactly that text) -/
theorem tagfree_renders_itself (env : Env) (fuel : Nat) (s : Render.Text) (c : CallArgs) (g v : List (Render.Text × Val)) :
    (topCall env (fuel + 3) { blocks := if s.isEmpty then [] else [.lit s], globals := g, vars := v } c).1 = .ok (.str s) := by
  cases s with
  | nil => rfl
  | cons a t =>
    rw [topCall_eq]
    simp only [List.isEmpty_cons, Bool.false_eq_true, if_false]
    rw [blocks_in_order env (fuel + 2) (.lit (a :: t)) [] _ _ _ _ []
      (lit_nonempty env (fuel + 1) (a :: t) _ (List.cons_ne_nil a t)) rfl]
    rfl

/-- a body's literal is emitted each time, and only when, the body is rendered: e.g. a
conditional whose condition is false emits nothing of its body (C09 has the general statement) -/
theorem literal_only_when_rendered (env : Env) (fuel : Nat) (s : Render.Text) (st : St) :
    (renderBlk env (fuel + 4) (.cond [(.expr (.lit (.bool false)), [.lit s])] none) st).1 = .ok [] ∧
    (s ≠ [] → (renderBlk env (fuel + 4) (.cond [(.expr (.lit (.bool true)), [.lit s])] none) st).1 = .ok [.text s]) := by
  constructor
  · simp [renderBlk, condLoop, evalExpr, truthy]
  · intro hs
    have es : s.isEmpty = false := List.isEmpty_eq_false_iff.mpr hs
    simp [renderBlk, condLoop, evalExpr, truthy, renderBlocks, pieceEmpty, es]

end Rendering


/-! ### rendering composes (block level) -/

section Compose
open DTML.Render DTML.Lemmas.Fuel

/-- **Rendering the concatenation of two block lists is the concatenation of their renderings**:
if `a` renders to the pieces `ps` (leaving state `st1`) and `b`, started from there, renders to
`qs`, then `a ++ b` renders to `ps ++ qs` — for some (hence, by fuel monotonicity, every larger)
amount of fuel.  (The namespace `b` starts from is the one `a` started from: C08.) -/
theorem render_concat (env : Env) : ∀ (a b : List Blk) (st st1 st2 : St) (ps qs : List Piece) (n m : Nat),
    renderBlocks env n a st = (.ok ps, st1) → renderBlocks env m b st1 = (.ok qs, st2) →
    ∃ k, renderBlocks env k (a ++ b) st = (.ok (ps ++ qs), st2) := by
  intro a
  induction a with
  | nil =>
    intro b st st1 st2 ps qs n m ha hb
    cases n with
    | zero => cases ha
    | succ n => cases ha; exact ⟨m, hb⟩
  | cons x a' ih =>
    intro b st st1 st2 ps qs n m ha hb
    cases n with
    | zero => cases ha
    | succ n =>
      obtain ⟨p1, sx, p2, hx, hr, rfl⟩ := renderBlocks_cons_ok env n x a' st st1 ps ha
      obtain ⟨k, hk⟩ := ih b sx st1 st2 p2 qs n m hr hb
      have e1 := renderBlk_lift env n x st (.ok p1) sx hx (by simp) (max n k) (Nat.le_max_left _ _)
      have e2 := renderBlocks_lift env k (a' ++ b) sx (.ok (p2 ++ qs)) st2 hk (by simp) (max n k) (Nat.le_max_right _ _)
      exact ⟨max n k + 1, by rw [List.append_assoc]; exact blocks_in_order env _ x _ st sx st2 p1 _ e1 e2⟩

/-- joining text pieces is concatenation: the text of `ps ++ qs` is the text of `ps` followed by the text of `qs` -/
theorem decodeAll_append (env : Env) (ps qs : List Piece) :
    decodeAll env (ps ++ qs) = (decodeAll env ps).bind fun s => (decodeAll env qs).map fun t => s ++ t :=
  Lemmas.Join.decodeAll_append env ps qs

end Compose

/-! ### The scanner of the model is the scanner of the source

`GenScan.candidateGen` / `GenScan.searchGen` are regenerated on every run by translating `dtml_re_class.search` in /repo
statement by statement (harness/trans_scan.py: the branches over the opening marker, the inner loop over `>` with the
quote-parity test, the entity branch, `name_match` and the cutting of name and arguments, the outer loop over
`start_search`).  They compute `Scan.candidate` / `Scan.scanHtml`, the functions every theorem above (and the token
theorems of C06 / C07) is stated about - for every text, at every offset. -/

/-- what stands at offset `s`: the translated loop body is the model's `candidate` on the text from `s` on -/
theorem gen_html_scanner_candidate_is_model (text : Text) (s : Nat) :
    GenScan.candidateGen text (s : Int) = candidate (text.drop s) :=
  Lemmas.ScanGen.candidateGen_eq text s

/-- one `search(text, start)`: the translated loop finds the tag `scanHtml` finds in the text from `start` on, at the
offset `start +` the length of the literal before it (`len(text) + 1` rounds always suffice) -/
theorem gen_html_scanner_search_is_model (text : Text) (start : Nat) :
    GenScan.searchGen text (text.length + 1) start =
      (scanHtml (text.drop start)).map (fun r => (start + r.1.length, r.2.1)) :=
  Lemmas.ScanGen.searchGen_eq text (text.length + 1) start (by omega)


/-! #### the main loop of `render_blocks_` as translated from the source on every run (DTML/GenJoin.lean)

`GenJoin.blockStepGen` is one round of `for block in blocks:` - the dispatch on the kind of block (text as it is; a tuple
with a str head to the `'v'` / `'i'` branches, which GenRender translates; anything else called with the namespace) and
`if append and block: rendered.append(block)`.  It is proved equal to what `renderBlk` / `renderBlocks` of the model do
with such a block: the pieces the block contributes are appended to the pieces collected so far. -/

section BlockLoop
open DTML.Render DTML.GenJoin

/-- `rendered` after a round whose block contributes `r` -/
def appendTo (rendered : List Piece) (r : Res (List Piece) × St) : Res (List Piece) × St :=
  match r with
  | (.ok ps, st) => (.ok (rendered ++ ps), st)
  | r => r

/-- **a text block is appended as it is** (an empty one not at all): `renderBlk` on `.lit` -/
theorem gen_block_step_literal (env : Env) (fuel : Nat) (vB : St → Res Piece × St)
    (iB : List Piece → St → Res (List Piece) × St) (s : Render.Text) (rendered : List Piece) (st : St) :
    blockStepGen vB iB (.str s) rendered st = appendTo rendered (renderBlk env (fuel + 1) (.lit s) st) := by
  rw [lit_verbatim]
  cases s with
  | nil => simp [blockStepGen, isTuple, isStr, blockTruthy, appendTo]
  | cons c t => simp [blockStepGen, isTuple, isStr, blockTruthy, appendTo, appendBlock]

/-- a bytes block is appended as it is too (no template of the model contains one; the dispatch of the source treats
it as text: `isinstance(block, (str, bytes))`) -/
theorem gen_block_step_bytes (vB : St → Res Piece × St) (iB : List Piece → St → Res (List Piece) × St)
    (b : List Nat) (rendered : List Piece) (st : St) :
    blockStepGen vB iB (.bytes b) rendered st = (.ok (rendered ++ if b.isEmpty then [] else [.bytes b]), st) := by
  cases b with
  | nil => simp [blockStepGen, isTuple, isStr, isBytesBlock, blockTruthy]
  | cons c t => simp [blockStepGen, isTuple, isStr, isBytesBlock, blockTruthy, appendBlock]

/-- **any other block is called with the namespace and its result appended unless it is empty** (`oneRes`: what the model
does with the result of a tag object), exceptions and DTReturn pass through -/
theorem gen_block_step_called (vB : St → Res Piece × St) (iB : List Piece → St → Res (List Piece) × St)
    (render : St → Res Piece × St) (rendered : List Piece) (st : St) :
    blockStepGen vB iB (.obj render) rendered st = appendTo rendered (oneRes (render st)) := by
  simp only [blockStepGen, isTuple, isStr, isBytesBlock, callBlock, Bool.false_eq_true, false_and, or_self,
    not_false_eq_true, if_true, if_false]
  rcases hr : render st with ⟨r, st1⟩
  cases r with
  | ok p =>
    cases p with
    | text s => cases s <;> simp [oneRes, appendTo, ofPiece, blockTruthy, appendBlock, pieceEmpty]
    | bytes b => cases b <;> simp [oneRes, appendTo, ofPiece, blockTruthy, appendBlock, pieceEmpty]
  | raise e => rfl
  | ret v => rfl
  | oom => rfl

/-- e.g. a comment tag (its `render` returns `''`): `renderBlk` on `.comment` -/
theorem gen_block_step_comment (env : Env) (fuel : Nat) (vB : St → Res Piece × St)
    (iB : List Piece → St → Res (List Piece) × St) (rendered : List Piece) (st : St) :
    blockStepGen vB iB (.obj fun st => (.ok (.text []), st)) rendered st =
      appendTo rendered (renderBlk env (fuel + 1) .comment st) := by
  rw [gen_block_step_called]
  simp [oneRes, pieceEmpty, renderBlk]

/-- a tuple whose code begins with `v` goes to the `'v'` branch: the value it leaves is appended unless empty -/
theorem gen_block_step_var (vB : St → Res Piece × St) (iB : List Piece → St → Res (List Piece) × St)
    (code : Render.Text) (n : Nat) (rendered : List Piece) (st : St) :
    blockStepGen vB iB (.tuple (some ('v' :: code)) (n + 2)) rendered st = appendTo rendered (oneRes (vB st)) := by
  -- what is done with the value is what is done with the result of a called block
  rw [← gen_block_step_called vB iB vB rendered st]
  have hn : n + 2 > 1 := by omega
  simp only [blockStepGen, isTuple, blockLen, headIsStr, headChar, hn, and_self, if_true, isStr, isBytesBlock, callBlock,
    Bool.false_eq_true, false_and, or_self, not_false_eq_true, if_false]

/-- a tuple whose code begins with `i` goes to the `'i'` branch, which appends what it renders itself; nothing is
appended after it (`append = False`) -/
theorem gen_block_step_if (vB : St → Res Piece × St) (iB : List Piece → St → Res (List Piece) × St)
    (code : Render.Text) (n : Nat) (rendered : List Piece) (st : St) :
    blockStepGen vB iB (.tuple (some ('i' :: code)) (n + 2)) rendered st = iB rendered st := by
  have hn : n + 2 > 1 := by omega
  have hc : ¬ ('i' = 'v') := by decide
  simp only [blockStepGen, isTuple, blockLen, headIsStr, headChar, hn, hc, and_self, if_true, if_false]
  rcases hr : iB rendered st with ⟨r, st1⟩
  cases r <;> simp

/-- any other command code is an error -/
theorem gen_block_step_invalid_code (vB : St → Res Piece × St) (iB : List Piece → St → Res (List Piece) × St)
    (c : Char) (code : Render.Text) (n : Nat) (rendered : List Piece) (st : St) (hv : c ≠ 'v') (hi : c ≠ 'i') :
    blockStepGen vB iB (.tuple (some (c :: code)) (n + 2)) rendered st = (.raise ⟨"ValueError".toList, []⟩, st) := by
  have hn : n + 2 > 1 := by omega
  simp only [blockStepGen, isTuple, blockLen, headIsStr, headChar, hn, hv, hi, and_self, if_true, if_false]

/-- **one unfolding of the block loop**: if the round for the first block does what `renderBlk` does with the model's block
and the rest of the loop what `renderBlocks` does with the rest, then the loop does what `renderBlocks` does with all of
them - the pieces come out in the order of the blocks, appended to those collected before -/
theorem gen_block_loop_unfold (env : Env) (fuel : Nat) (step : PyBlock → List Piece → St → Res (List Piece) × St)
    (pb : PyBlock) (pbs : List PyBlock) (b : Blk) (bs : List Blk)
    (hb : ∀ rendered st, step pb rendered st = appendTo rendered (renderBlk env fuel b st))
    (hrest : ∀ rendered st, blocksLoopGen step pbs rendered st = appendTo rendered (renderBlocks env fuel bs st))
    (rendered : List Piece) (st : St) :
    blocksLoopGen step (pb :: pbs) rendered st = appendTo rendered (renderBlocks env (fuel + 1) (b :: bs) st) := by
  simp only [blocksLoopGen, renderBlocks, hb]
  rcases h1 : renderBlk env fuel b st with ⟨r, st1⟩
  cases r with
  | ok ps =>
    simp only [appendTo, hrest]
    rcases h2 : renderBlocks env fuel bs st1 with ⟨r2, st2⟩
    cases r2 <;> simp
  | raise e => rfl
  | ret v => rfl
  | oom => rfl

/-- the empty loop collects nothing more -/
theorem gen_block_loop_nil (env : Env) (fuel : Nat) (step : PyBlock → List Piece → St → Res (List Piece) × St)
    (rendered : List Piece) (st : St) :
    blocksLoopGen step [] rendered st = appendTo rendered (renderBlocks env (fuel + 1) [] st) := by
  simp [blocksLoopGen, renderBlocks, appendTo]
end BlockLoop


/-! #### the main loop of `String.parse` as translated from the source on every run (DTML/GenParseLoop.lean)

`GenParseLoop.bodyGen` is one round of `while mo:` (`l_ = mo.start(0)`, `_parseTag`, `s = text[start:l_]`,
`if s: result.append(s)`, `start = l_ + len(tag)`, block tag -> `parse_block` / simple tag -> `command(args)`,
`simple_form`, `result.append(r)`), `loopGen` the loop with the next `tagre.search(text, start)`, `epilogueGen` the
statements after it - all read off the source by harness/trans_parseloop.py, with the scanner, `_parseTag`,
`parse_block` and the commands as parameters. -/

section ParseLoop
open DTML.GenParseLoop DTML.Lemmas.ParseLoop
variable {M A C R E : Type}

/-- one round of the loop is the model's `parseStep` -/
theorem gen_parse_body_is_model (P : Params M A C R E) (text : Text) (start : Nat) (result : List (Item R)) (mo : M) :
    bodyGen P text start result mo = parseStep P text start result mo := by
  unfold bodyGen parseStep appendLit
  rfl

/-- the statements after the loop: `text = text[start:]; if text: result.append(text); return result` -/
theorem gen_parse_epilogue_is_model (text : Text) (start : Nat) (result : List (Item R)) :
    (epilogueGen text start result : Except E (List (Item R))) = .ok (appendLit result (text.drop start)) := by
  unfold epilogueGen appendLit pyFrom
  rfl

/-- the whole loop, for every fuel: the search at the end of the body is `tagre.search(text, start)` on the new start -/
theorem gen_parse_loop_is_model (P : Params M A C R E) (text : Text) :
    ∀ (fuel start : Nat) (result : List (Item R)) (mo : Option M),
      loopGen P text fuel start result mo = parseLoop P text fuel start result mo := by
  intro fuel
  induction fuel with
  | zero => intro start result mo; simp only [loopGen, parseLoop, gen_parse_epilogue_is_model]
  | succ n ih =>
    intro start result mo
    cases mo with
    | none => simp only [loopGen, parseLoop, gen_parse_epilogue_is_model]
    | some m =>
      simp only [loopGen, parseLoop, gen_parse_body_is_model]
      cases parseStep P text start result m with
      | error e => rfl
      | ok v => obtain ⟨s, r⟩ := v; simp only [ih, nextGen]

/-- `String.parse(text, start, result)` = the model's loop entered with the first `tagre.search(text, start)` -/
theorem gen_parse_is_model (P : Params M A C R E) (text : Text) (start : Nat) (result : List (Item R)) (fuel : Nat) :
    parseGen P text start result fuel = parseLoop P text fuel start result (P.search text start) := by
  unfold parseGen
  exact gen_parse_loop_is_model P text fuel start result _

/-- **Literal text is carried over verbatim by the main loop of `String.parse`** (the source's own statements, for any
scanner, `_parseTag`, `parse_block` and commands): if the scanner's matches lie at or after `start`, the tag text is
what stands at the match, and `parse_block` only appends and does not go backwards (`Sound`), then a parse that ends
without a ParseError has appended exactly `segItems segs tail` for a list of segments (literal, tag text, what
`parse_block` consumed, the tag's items) that tile the text from `start` on: `segText segs tail = text[start:]`.
So every literal appended is the slice between the end of one tag (or block) and the start of the next, none is
empty (`litItems`), nothing is lost or duplicated; a simple tag consumes its own text only (`SimpleOk`: `start = l_ + len(tag)`)
and contributes one compiled item.  Holds for every fuel. -/
theorem gen_parse_literals_verbatim (P : Params M A C R E) (text : Text) (hP : Sound P text)
    (start : Nat) (result : List (Item R)) (fuel : Nat) (out : List (Item R))
    (h : parseGen P text start result fuel = .ok out) :
    ∃ (segs : List (Seg R)) (tail : Text), (∀ s ∈ segs, SimpleOk s) ∧
      out = result ++ segItems segs tail ∧ segText segs tail = text.drop start := by
  rw [gen_parse_is_model] at h
  exact parseLoop_segments P text hP fuel start result out h

/-- the model's scanner and tags as parameters of the loop: a match is (offset, token), every tag is a simple tag whose
compiled form is the token itself -/
def modelParams (syn : Syntax) : Params (Nat × Tok) Tok Unit Tok Unit where
  search text start := (scan syn (text.drop start)).map (fun r => (start + r.1.length, r.2.1))
  moStart m := m.1
  parseTag m := .ok (m.2.text, m.2, (), [])
  hasBlockContinuations _ := false
  parseBlock _ s r _ _ _ _ := .ok (s, r)
  isVar _ := false
  callVar _ a _ := .ok a
  call _ a := .ok a
  hasSimpleForm _ := false
  simpleForm r := r
  errorAt e _ _ := e
  errorIn e _ _ _ := e

/-- the items the model's token list stands for -/
def tokItems (t : List (Text × Tok) × Text) : List (Item Tok) :=
  t.1.flatMap (fun p => litItems p.1 ++ [.node p.2]) ++ litItems t.2

theorem parseLoop_tokens (syn : Syntax) (text : Text) : ∀ (fuel start : Nat) (result : List (Item Tok)),
    parseLoop (modelParams syn) text fuel start result ((modelParams syn).search text start) =
      .ok (result ++ tokItems (tokensAux syn fuel (text.drop start))) := by
  intro fuel
  induction fuel with
  | zero => intro start result; simp [parseLoop, tokensAux, tokItems, appendLit_eq]
  | succ n ih =>
    intro start result
    cases hs : scan syn (text.drop start) with
    | none => simp [parseLoop, tokensAux, tokItems, appendLit_eq, modelParams, hs]
    | some v =>
      obtain ⟨lit, tk, rest⟩ := v
      have hrec := scan_reconstruct syn _ lit rest tk hs
      have hlit : pySlice text start (start + lit.length) = lit := by
        simp only [pySlice, Nat.add_sub_cancel_left, ← hrec, List.append_assoc, List.take_left']
      have hrest : text.drop (start + lit.length + tk.text.length) = rest := by
        rw [← List.drop_drop, ← List.drop_drop, ← hrec, List.append_assoc, List.drop_left, List.drop_left]
      have hsearch : (modelParams syn).search text start = some (start + lit.length, tk) := by
        simp [modelParams, hs]
      rw [hsearch]
      have hstep : parseStep (modelParams syn) text start result (start + lit.length, tk) =
          .ok (start + lit.length + tk.text.length, result ++ litItems lit ++ [.node tk]) := by
        simp [parseStep, modelParams, hlit, appendLit_eq]
      simp only [parseLoop, hstep, ih, hrest, tokensAux, hs, tokItems, List.flatMap_cons, List.append_assoc]

/-- **The loop of the source, run with the model's scanner, is the model's tokeniser**: on a source all of whose tags
are simple tags, `String.parse` appends exactly the literals (the non-empty ones) and tags of `Scan.tokens` - the
list `Parse.buildAux` consumes -, in order, and the trailing literal. -/
theorem gen_parse_is_tokens (syn : Syntax) (text : Text) :
    parseGen (modelParams syn) text 0 [] (text.length + 1) = .ok (tokItems (tokens syn text)) := by
  rw [gen_parse_is_model, parseLoop_tokens]
  simp [tokens]

/-- non-vacuity of `Sound`: the model's scanner with simple tags satisfies it, for every text -/
theorem modelParams_sound (syn : Syntax) (text : Text) : Sound (modelParams syn) text where
  search_ge := by
    intro start mo h
    simp only [modelParams, Option.map_eq_some_iff] at h
    obtain ⟨r, _, rfl⟩ := h
    exact Nat.le_add_right _ _
  tag_at := by
    intro start mo tag a c co hs h
    simp only [modelParams, Option.map_eq_some_iff] at hs
    obtain ⟨⟨lit, tk, rest⟩, hscan, rfl⟩ := hs
    simp only [modelParams, Except.ok.injEq, Prod.mk.injEq] at h
    have hrec := scan_reconstruct syn _ lit rest tk hscan
    refine ⟨rest, ?_⟩
    rw [← h.1]
    show tk.text ++ rest = List.drop (start + lit.length) text
    rw [← List.drop_drop, ← hrec, List.append_assoc, List.drop_left]
  block_mono := by
    intro start result tag l a c start' result' h
    simp only [modelParams, Except.ok.injEq, Prod.mk.injEq] at h
    exact ⟨by omega, [], by simp [h.2]⟩

end ParseLoop

end DTML.Props.C01
