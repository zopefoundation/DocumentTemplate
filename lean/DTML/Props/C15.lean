/-
C15 — dtml-var options apply a fixed, documented value pipeline.
Model: DTML/VarPipe.lean (lemmas: Lemmas/VarPipe).  The file opens with the obligations on the tables extracted from
DT_Var.py and ends with those on the source as translated on every run: the stage order and the truncation of
`Var.render` (GenVar), the form and the modifiers `Var.__init__` stores (GenVarInit, with Lemmas/VarInit), the fetch part
of `Var.render` (GenFetch, with Lemmas/Fetch).
-/
import DTML.Lemmas.VarPipe
import DTML.GenVar
import DTML.Lemmas.VarInit
import DTML.Lemmas.Fetch
namespace DTML.Props.C15
open DTML.Quote DTML.VarPipe

/-- the modifier table: these names, in this order (a reordered, shortened or
extended tuple in DT_Var breaks this obligation). -/
theorem gen_modifiers :
    Gen.modifiers = ["html_quote", "url_quote", "url_quote_plus", "url_unquote", "url_unquote_plus",
      "newline_to_br", "lower", "upper", "capitalize", "spacify", "thousands_commas", "sql_quote",
      "url_unquote", "url_unquote_plus"] := by rfl

theorem gen_sql_tables : Gen.sqlRemoved = ["\x00", "\x1a", "\r"] ∧ Gen.sqlDoubled = ["'"] :=
  ⟨rfl, rfl⟩

theorem gen_special_formats :
    Gen.specialFormats = ["collection-length", "comma-numeric", "dollars-and-cents",
      "dollars-and-cents-with-commas", "dollars-with-commas", "html-quote", "multi-line",
      "restructured-text", "sql-quote", "structured-text", "url-quote", "url-quote-plus",
      "url-unquote", "url-unquote-plus", "whole-dollars"] := by rfl

/-- The modifiers applied are a function of the *set* of option names written:
two tags that mention the same names (any order, any repetition) apply the same
modifiers in the same order. -/
theorem modifier_order_independent (sp₁ sp₂ : Spec)
    (h : ∀ m, m ∈ sp₁.written ↔ m ∈ sp₂.written) : applied sp₁ = applied sp₂ := by
  unfold applied
  refine List.filter_congr fun m _ => ?_
  rw [Bool.eq_iff_iff, List.contains_iff_mem, List.contains_iff_mem]
  exact h m

/-- The modifiers are applied in the order of the source table. -/
theorem applied_sublist (sp : Spec) : (applied sp).Sublist Gen.modifiers :=
  List.filter_sublist

/-- a written modifier is applied, an unwritten one is not -/
theorem applied_iff (sp : Spec) (m : String) : m ∈ applied sp ↔ m ∈ Gen.modifiers ∧ m ∈ sp.written := by
  simp [applied]

/-- the case modifiers and spacify are exactly the string functions
(`spacify` = replace every '_' by a blank) -/
theorem case_mods_are_methods (x : Ext) (s : Text) :
    applyMod x "lower" s false = (x.lower s, false) ∧
    applyMod x "upper" s false = (x.upper s, false) ∧
    applyMod x "capitalize" s false = (x.capitalize s, false) ∧
    (applyMod x "spacify" s false).1 = s.map (fun c => if c = '_' then ' ' else c) := by
  refine ⟨applyMod_lower .., applyMod_upper .., applyMod_capitalize .., ?_⟩
  rw [applyMod_spacify, ← spacify_eq_map]
  split
  · rfl
  next h => exact (replaceChar_of_not_mem (by simpa using h)).symm

/-- `rfind(' ')`: -1 when there is no blank, otherwise the index of the last one -/
theorem rfindSpace_spec (s : Text) :
    (rfindSpace s = -1 ∧ ' ' ∉ s) ∨
    (∃ k, k < s.length ∧ rfindSpace s = (k : Nat) ∧ s[k]? = some ' ' ∧
       ∀ j, k < j → j < s.length → s[j]? ≠ some ' ') := by
  unfold rfindSpace
  rcases rfindSpaceAux_spec s 0 (-1) with h | ⟨k, h1, h2, h3⟩
  · exact .inl h
  · refine .inr ⟨k, (List.getElem?_eq_some_iff.mp h2).1, by rw [h1, Nat.zero_add], h2, fun j hj _ hs => h3 ?_⟩
    rw [show j = k + 1 + (j - (k + 1)) by omega, ← List.getElem?_drop] at hs
    exact List.mem_of_getElem? hs

private theorem rfindSpace_range (s : Text) : -1 ≤ rfindSpace s ∧ rfindSpace s < s.length := by
  rcases rfindSpace_spec s with ⟨h, _⟩ | ⟨k, hk, h, _⟩ <;> rw [h] <;> omega

/-- For `size ≥ 0`: a value no longer than `size` is left
untouched; a longer one becomes `p ++ etc` where `p` is a prefix of the value of
at most `size` characters — the first `size` characters, cut back to (and
including) their last blank exactly when that blank's index `l` satisfies
`l > size / 2`. -/
theorem truncate_spec (n : Int) (hn : 0 ≤ n) (etc s : Text) :
    ((s.length : Int) ≤ n → (truncate n etc s false).1 = s) ∧
    ((s.length : Int) > n →
       let v := s.take n.toNat
       let l := rfindSpace v
       (truncate n etc s false).1 = (if 2 * l > n then s.take (l + 1).toNat else v) ++ etc ∧
       ((if 2 * l > n then s.take (l + 1).toNat else v).length : Int) ≤ n ∧
       (if 2 * l > n then s.take (l + 1).toNat else v) <+: s) := by
  obtain ⟨k, rfl⟩ := Int.eq_ofNat_of_zero_le hn
  rw [truncate_fst, Int.toNat_natCast]
  constructor
  · intro h
    rw [if_neg (by omega)]
  · intro h
    obtain ⟨hl0, hl⟩ := rfindSpace_range (s.take k)
    rw [List.length_take, Nat.min_eq_left (by omega)] at hl
    simp only [if_pos h, sliceTo_of_nonneg hn, Int.toNat_natCast]
    split
    · -- the cut after the last blank is a prefix of the first `n` characters, so of `s`
      rw [sliceTo_of_nonneg (by omega), List.take_take, Nat.min_eq_left (by omega)]
      refine ⟨rfl, ?_, List.take_prefix _ _⟩
      have := List.length_take_le (rfindSpace (s.take k) + 1).toNat s
      omega
    · exact ⟨rfl, Int.ofNat_le.mpr (List.length_take_le k s), List.take_prefix _ _⟩

/-- reading the text as the inside of a SQL string literal: a quote must be
followed by a second one (an escaped quote); a lone quote would end the literal -/
def sqlSafe : Text → Bool
  | '\'' :: '\'' :: t => sqlSafe t
  | '\'' :: _ => false
  | _ :: t => sqlSafe t
  | [] => true

private theorem sqlSafe_cons_ne (c : Char) (t : Text) (h : c ≠ '\'') : sqlSafe (c :: t) = sqlSafe t := by
  simp [sqlSafe, h]

/-- The result of sql_quote contains no NUL, Ctrl-Z or CR, and cannot
terminate a SQL string literal: every single quote in it is doubled. -/
theorem sql_quote_spec (s : Text) :
    (∀ c ∈ sqlQuote s, c ≠ '\x00' ∧ c ≠ '\x1a' ∧ c ≠ '\r') ∧ sqlSafe (sqlQuote s) = true := by
  refine ⟨fun c hc => (mem_sqlQuote.mp hc).2, ?_⟩
  · simp only [sqlQuote]
    generalize removeChar (removeChar (removeChar s '\x00') '\x1a') '\r' = u
    induction u with
    | nil => rfl
    | cons c t ih =>
      simp only [replaceChar, List.flatMap_cons] at ih ⊢
      by_cases hc : c = '\''
      · subst hc
        simp only [if_true, List.cons_append, List.nil_append, sqlSafe]
        exact ih
      · simp only [hc, if_false, List.singleton_append]
        rw [sqlSafe_cons_ne _ _ hc]
        exact ih

/-- thousands_commas only ever inserts commas: deleting the commas from its
result gives the input with its commas deleted (so a numeral comes back
unchanged), and the part after the first '.' is not touched at all. -/
theorem thousands_commas_only_inserts_commas (s : Text) :
    (thousandsCommas s).filter (· != ',') = s.filter (· != ',') ∧
    thousandsCommas s = thouLoop (splitOnDot s).1.length (splitOnDot s).1 ++ (splitOnDot s).2 ∧
    (splitOnDot s).1 ++ (splitOnDot s).2 = s :=
  ⟨filter_thousandsCommas s, rfl, by simp [splitOnDot, List.takeWhile_append_dropWhile]⟩

/-- grouping in threes, on concrete numerals (tests, labelled as such) -/
example : thousandsCommas "1234567".toList = "1,234,567".toList := by decide +kernel
example : thousandsCommas "-1234567.891".toList = "-1,234,567.891".toList := by decide +kernel
example : thousandsCommas "123".toList = "123".toList := by decide +kernel
example : thousandsCommas "$1000".toList = "$1,000".toList := by decide +kernel

/-- `missing=` replaces an undefined name (and nothing else happens to it);
without it an undefined name is a KeyError. -/
theorem missing_replaces_undefined (x : Ext) (sp : Spec) :
    render x sp none = (match sp.missing with | some m => some (.ok m) | none => some (.error .keyError)) := by
  rfl

/-- null values: None, false-but-not-zero -/
theorem null_values : isNull .none = true ∧ isNull (.str [] false) = true ∧ isNull (.obj s false ms) = true ∧
    (∀ i, isNull (.int i) = false) ∧ (∀ c t tt, isNull (.str (c :: t) tt) = false) := by
  refine ⟨rfl, rfl, rfl, fun _ => rfl, fun _ _ _ => rfl⟩

/-- `null=` replaces a null value, before any formatting -/
theorem null_replaces_null (x : Ext) (sp : Spec) (v : Val) (n : Text)
    (hn : sp.null = some n) (hv : isNull v = true) :
    renderFull x sp v = some (.ok n) := by
  simp [renderFull, hn, hv]

/-- For a non-null value the full pipeline is, in this order:
`fmt=`, C-style format, the modifiers of `applied sp` folded left to right,
size/etc truncation, final quoting of a still-tainted value. -/
theorem pipeline_stages (x : Ext) (sp : Spec) (v v1 : Val) (s : Text) (t : Bool)
    (hn : (sp.null.isSome && isNull v) = false)
    (hf : fmtOpt x sp v = some (.ok v1))
    (hc : cfmtStage sp.cfmt v1 = some (.ok (s, t))) :
    renderFull x sp v =
      some (finishStage sp ((applied sp).foldl (fun p m => applyMod x m p.1 p.2) (s, t)).1
                           ((applied sp).foldl (fun p m => applyMod x m p.1 p.2) (s, t)).2) :=
  renderFull_stages x sp v v1 s t hn hf hc

/-- `Gen.modifiers` lists url_unquote and url_unquote_plus twice, so a tag that
asks for url_unquote applies it twice. -/
theorem tag_unquote_applies_twice :
    applied { written := ["url_unquote"] } = ["url_unquote", "url_unquote"] ∧
    applied { written := ["url_unquote_plus"] } = ["url_unquote_plus", "url_unquote_plus"] := by decide +kernel

/-- **Partial.**  If the codec satisfies the round-trip law, the modifiers of
`<dtml-var y url_unquote>` applied to the output of url_quote return the
original text — for values that unquoting leaves alone (no `%XX` in them).  The
side condition is needed because of the doubled table entry (finding
C15-double-unquote, witness below). -/
theorem unquote_inverts_quote_partial (x : Ext) (s : Text)
    (hrt : ∀ u, x.urlUnquote (x.urlQuote u) = u) (hfix : x.urlUnquote s = s) :
    applyMods x (applied { written := ["url_unquote"] }) (x.urlQuote s) false = (s, false) := by
  rw [tag_unquote_applies_twice.1]
  simp only [applyMods, List.foldl, applyMod_url_unquote, hrt, hfix, Bool.false_and]

/-- The side condition is needed: with a codec that behaves like urllib on
these strings, the value `%41` is quoted to `%2541`, and the tag's two
unquoting passes turn that into `A`, not `%41`. -/
theorem finding_C15_double_unquote :
    let x : Ext := { upper := id, lower := id, capitalize := id,
                     urlQuote := fun s => if s = "%41".toList then "%2541".toList else s,
                     urlQuotePlus := id,
                     urlUnquote := fun s => if s = "%2541".toList then "%41".toList
                                            else if s = "%41".toList then "A".toList else s,
                     urlUnquotePlus := id }
    x.urlUnquote (x.urlQuote "%41".toList) = "%41".toList ∧
    applyMods x (applied { written := ["url_unquote"] }) (x.urlQuote "%41".toList) false = ("A".toList, false) := by
  decide +kernel

/-! #### what the source says (regenerated from `Var.render` on every run: harness/trans_var.py) -/

/-- **The stages of `Var.render`, in the order of the source**: fetch the value (`missing` handled there), the `null`
test, `fmt=`, the C-style format, the loop over the modifiers, `size` / `etc`, the final quoting of a still-tainted
value — the order `renderFull` implements and `pipeline_stages` states; and the null test is "false but not 0". -/
theorem gen_var_render_stages :
    GenVar.varRenderStages = ["fetch", "null", "fmt", "cformat", "modifiers", "size", "taint-quote", "return"] ∧
    GenVar.varNullTest = "'null' in args and (not val) and (val != 0)" :=
  ⟨rfl, rfl⟩

/-- **The truncation of the model is the truncation of the source**: the block `if len(val) > size: …` translated
statement by statement (`val[:size]`, `rfind(' ')`, `l_ > size / 2`, `val[:l_ + 1]`, `etc` or `'...'`) computes
`VarPipe.truncate`, about which `truncate_spec` is stated. -/
theorem gen_truncate_is_model (size : Int) (etc : Option Text) (s : Text) :
    GenVar.truncGen size etc.isSome (etc.getD []) s = (truncate size (etc.getD "...".toList) s false).1 := by
  rw [truncate_fst]
  unfold GenVar.truncGen
  cases etc <;> rfl

/-! #### which form the tag compiles to (regenerated from `Var.__init__` on every run: harness/trans_varinit.py) -/

/-- **The form the model chooses is the form the source chooses**: the if-chain at the end of `Var.__init__`
(`len(args) == 1 and fmt == 's'` -> `('v', x)`; `len(args) == 2 and fmt == 's' and 'html_quote' in args` ->
`('v', x, 'h')`; otherwise `Var.render`), translated test by test, evaluated on the attribute dictionary of the tag a
spec describes (`Lemmas.VarInit.paramsOf`: the unnamed value, one key per distinct option name written, one per
attribute with a value) is `simpleKind` - the function `render` branches on between `renderSimple` and `renderFull`. -/
theorem gen_var_form_is_model (sp : Spec) :
    GenVarInit.formGen (Lemmas.VarInit.paramsOf sp) sp.cfmt = simpleKind sp := by
  have hs : "s".toList = ['s'] := rfl
  unfold GenVarInit.formGen simpleKind
  rw [← Lemmas.VarInit.paramsOf_length, Lemmas.VarInit.has_paramsOf sp "html_quote" (by simp), hs]
  generalize (Lemmas.VarInit.paramsOf sp).length = n
  -- the same two tests, the conjuncts in another order
  simp only [Bool.and_eq_true, decide_eq_true_eq, and_comm, and_left_comm]

/-- **The modifiers the model applies are `self.modifiers` of the source**: the table `modifiers` filtered by the test of
the source (`used(m[0]) and args[m[0]]`: the name is a key of the dictionary and its value is true) is `applied`. -/
theorem gen_var_modifiers_is_model (sp : Spec) :
    GenVarInit.modifiersGen (Lemmas.VarInit.paramsOf sp) = applied sp := by
  unfold GenVarInit.modifiersGen applied
  refine List.filter_congr fun m hm => ?_
  -- a modifier name that is written has the (true) default of the table as its value
  rw [Parse.Params.has, GenVarInit.argTruthy,
    Lemmas.VarInit.lookup_paramsOf sp m (Lemmas.VarInit.modifiers_not_valued m hm)]
  cases sp.written.contains m <;> rfl

/-! #### the fetch part of `Var.render` (regenerated from the source on every run: harness/trans_fetch.py) -/

/-- **`missing` and `null` of the model are `missing` and `null` of the source**: `Var.render` from its top to the `fmt=`
stage, translated statement by statement (`if val is None: if name in md: val = md[name] else: 'missing' in args ->
return args['missing'] / raise KeyError(name)`, then `'null' in args and not val and val != 0 -> return args['null']`),
run on a name that is undefined (`none`) or has a value, is `render` for a tag that compiles to `Var.render`
(`simpleKind sp = 0`) - the function `missing_replaces_undefined`, `null_replaces_null` and `pipeline_stages` are about.
(`url` is no attribute of the model's tag: `url := none`.) -/
theorem gen_var_fetch_is_model (x : Ext) (sp : Spec) (v : Option Val) (absUrl : Val → R Val) (h : simpleKind sp = 0) :
    GenFetch.fetchPipeGen (.name v) ⟨sp.missing, sp.null, none⟩ absUrl (Lemmas.Fetch.afterNullPipe x sp) =
      render x sp v := by
  unfold GenFetch.fetchPipeGen render
  cases v with
  | none => cases hm : sp.missing <;> rfl
  | some v =>
    simp only [h, ne_eq, not_true_eq_false, if_false]
    exact Lemmas.Fetch.fetchNullPipe_is_renderFull x sp _ rfl v

/-- an expression: its exception leaves the method, its value goes through the null test (no `missing`) -/
theorem gen_var_fetch_expr_is_model (x : Ext) (sp : Spec) (r : R Val) (absUrl : Val → R Val) :
    GenFetch.fetchPipeGen (.expr r) ⟨sp.missing, sp.null, none⟩ absUrl (Lemmas.Fetch.afterNullPipe x sp) =
      (match r with | .ok v => renderFull x sp v | .error e => some (.error e)) := by
  unfold GenFetch.fetchPipeGen
  cases r with
  | error e => rfl
  | ok v => exact Lemmas.Fetch.fetchNullPipe_is_renderFull x sp _ rfl v

/-- the hypothesis `simpleKind sp = 0` is not vacuous -/
example : simpleKind { written := [], missing := some [] } = 0 := by decide +kernel

/-- the hypothesis `simpleKind sp = 0` holds whenever an attribute with a value is written -/
theorem full_form_of_any_option (sp : Spec)
    (h : (sp.missing.isSome || sp.null.isSome || sp.fmt.isSome || sp.size.isSome || sp.etc.isSome) = true) :
    simpleKind sp = 0 := by
  have h1 : sp.written.contains "html_quote" = true → 1 ≤ sp.written.eraseDups.length := fun hw =>
    List.length_pos_of_mem (List.mem_eraseDups.mpr (List.contains_iff_mem.mp hw))
  have hge : 1 ≤ (if sp.missing.isSome = true then 1 else 0) + (if sp.null.isSome = true then 1 else 0) +
      (if sp.fmt.isSome = true then 1 else 0) + (if sp.size.isSome = true then 1 else 0) +
      (if sp.etc.isSome = true then 1 else 0) := by
    refine Nat.pos_of_ne_zero fun h0 => ?_
    simp only [Nat.add_eq_zero_iff, ite_eq_right_iff, Nat.one_ne_zero, imp_false, Bool.not_eq_true] at h0
    simp only [h0, Bool.or_self, Bool.false_eq_true] at h
  -- so there are at least two arguments, and at least three if html_quote is one of them
  simp only [simpleKind]
  rw [if_neg, if_neg]
  · rintro ⟨_, h2, hw⟩
    have := h1 hw
    omega
  · rintro ⟨_, h2⟩
    omega

theorem full_form_of_missing_or_null (sp : Spec) (h : (sp.missing.isSome || sp.null.isSome) = true) :
    simpleKind sp = 0 :=
  full_form_of_any_option sp (by simp only [h, Bool.true_or])

end DTML.Props.C15
