/-
C20 — Tree state survives its cookie encoding and tracks expand/collapse clicks.
First the codec (DTML/TreeCodec.lean, lemmas in Lemmas/TreeCodec), then the expansion state (DTML/TreeState.lean, lemmas
in Lemmas/TreeState).  Each half also holds the obligations on TreeTag.py as extracted or translated on every run: the
constants (`gen_tree_constants`) and `encode_str` / `encode_seq` / `decode_seq` (GenTree, harness/trans_treecodec.py;
with Lemmas/TreeCodecGen) for the codec;
`apply_diff`, `tpStateLevel`, `tpValuesIds` (GenTreeState, harness/trans_tree.py; with Lemmas/TreeGen) for the state.
-/
import DTML.TreeCodec
import DTML.TreeState
import DTML.GenTreeState
import DTML.Lemmas.TreeGen
import DTML.Lemmas.TreeCodecGen
namespace DTML.Props.C20
open DTML.TreeCodec DTML.Lemmas.TreeCodec

/-- what the harness extracts from TreeTag.py on every run - the integer literals of `encode_seq`, `encode_str` and
`decode_seq`, and the two translation tables as their differences from the identity - are the numbers `TreeCodec` has
written out (57, 76, 4; '+' ↔ '-') -/
theorem gen_tree_constants :
    Gen.treeEncodeSeqInts = [0, 1, 57] ∧ Gen.treeEncodeStrInts = [0, 1, 57] ∧
    Gen.treeDecodeSeqInts = [0, 4, 76] ∧ Gen.tplusDiff = [(43, 45)] ∧ Gen.tminusDiff = [(45, 43)] := by
  decide

/-- **Codec round trip.**  For every byte string (any length: the 57-byte /
76-character chunk boundaries are crossed by proof, not by sample),
decoding the encoded cookie text returns the bytes. -/
theorem b64_roundtrip (bs : Bytes) (hv : Valid bs) : decodeStr (encodeStr bs) = some bs := by
  obtain ⟨hpad, hminus⟩ := b2a_strip bs
  have hS : (encodeStr bs).map tminus = (b2a bs).takeWhile (· != '=') := by
    rw [encodeStr_unchunked]
    exact map_tminus_tplus _ fun h => hminus (List.takeWhile_subset _ h)
  have hclean : '=' ∉ (b2a bs).takeWhile (· != '=') := fun h => by
    simpa using List.all_eq_true.mp List.all_takeWhile _ h
  rw [decodeStr_unchunked _ (hS ▸ hclean), hS, hpad, a2b_b2a bs hv]

/-- Hence the whole cookie codec round-trips under the (external) laws of zlib
and json: `decompress ∘ compress = id`, `loads ∘ dumps = id`. -/
theorem codec_roundtrip {State : Type} (dumps : State → Bytes) (loads : Bytes → Option State)
    (compress decompress : Bytes → Bytes)
    (hjson : ∀ s, loads (dumps s) = some s) (hz : ∀ b, decompress (compress b) = b)
    (hvalid : ∀ b, Valid (compress b)) (s : State) :
    ((decodeStr (encodeStr (compress (dumps s)))).map decompress).bind loads = some s := by
  rw [b64_roundtrip _ (hvalid _)]
  simp [hz, hjson]

/-- tests on concrete data: the chunk boundary (57 / 58 bytes), then `+` written as `-` -/
example : decodeStr (encodeStr (List.replicate 57 200)) = some (List.replicate 57 200) := by decide +kernel
example : decodeStr (encodeStr (List.replicate 58 7 ++ [0, 255])) = some (List.replicate 58 7 ++ [0, 255]) := by
  decide +kernel
example : encodeStr [251, 255, 190] = "-/--".toList := by decide +kernel

/-! #### the codec TRANSLATED from TreeTag.py on every run (harness/trans_treecodec.py -> GenTree.lean) is the model -/

section Translated
open DTML.GenTree DTML.Lemmas.TreeCodecGen

/-- `TreeTag.encode_str`, statement by statement, is `encodeStr` (for every byte string) -/
theorem gen_encode_str_is_model (bs : Bytes) : GenTree.encodeStrGen bs = encodeStr bs := by
  have hK : ∀ s : List Char, encodeStrK0 s = (s.takeWhile (· != '=')).map tplus := by
    intro s
    rw [← find_cut '=' s]
    simp only [encodeStrK0, encodeStrK1]
    split <;> rfl
  unfold encodeStrGen encodeStr
  simp only [hK]
  by_cases h : bs.length > 57
  · simp only [if_pos h]
    rw [enc_loop_range 57 bs b2a (encodeStrLoop0 bs) (fun _ _ => rfl), ← List.flatMap_def]
  · simp only [if_neg h]

/-- `TreeTag.encode_seq`, statement by statement, is `encodeStr` after `compress(json.dumps(state))` -/
theorem gen_encode_seq_is_model {State : Type} (dumps : State → Bytes) (compress : Bytes → Bytes) (s : State) :
    GenTree.encodeSeqGen dumps compress s = encodeStr (compress (dumps s)) := by
  -- the two functions of the source differ only in where the bytes come from
  exact gen_encode_str_is_model (compress (dumps s))

/-- `TreeTag.decode_seq`, statement by statement, is `decodeStr`, then `decompress`, then `json.loads` (`[]` when that
fails); `none`: `a2b_base64` raised -/
theorem gen_decode_seq_is_model {State : Type} (decompress : Bytes → Bytes) (loads : Bytes → Option State)
    (empty : State) (cs : List Char) :
    GenTree.decodeSeqGen decompress loads empty cs =
      (decodeStr cs).map (fun b => (loads (decompress b)).getD empty) := by
  unfold decodeSeqGen decodeStr
  generalize cs.map tminus = s
  by_cases h : s.length > 76
  · have hm : s.length / 76 * 76 ≤ s.length := Nat.div_mul_le_self _ _
    simp only [if_pos h]
    rw [dec_loop_range 76 (by decide) s a2b (decodeSeqLoop0 decompress loads empty s) (fun _ _ => rfl)
      (s.length / 76) hm]
    by_cases hj : s.length / 76 * 76 < s.length
    · have he : (s.drop (s.length / 76 * 76)).isEmpty = false := by
        rw [Bool.eq_false_iff, Ne, List.isEmpty_iff, List.drop_eq_nil_iff]; omega
      simp only [if_pos hj, he]
      rw [pad_gen (s.drop (s.length / 76 * 76)) (fun t => decodeSeqK1 decompress loads empty _ t)]
      simp only [decodeSeqK1, decodeSeqK0, finishDecode_eq]
      rfl
    · have he : (s.drop (s.length / 76 * 76)).isEmpty = true := by
        rw [List.isEmpty_iff, List.drop_eq_nil_iff]; omega
      simp only [if_neg hj, he, decodeSeqK0, finishDecode_eq]
      rfl
  · simp only [if_neg h]
    rw [pad_gen s (fun t => decodeSeqK2 decompress loads empty t)]
    simp only [decodeSeqK2, finishDecode_eq]

/-- **The round trip of the translated functions**: what `encode_seq` writes, `decode_seq` reads back (under the external
laws of zlib and json) - for every state, whatever its length. -/
theorem gen_codec_roundtrip {State : Type} (dumps : State → Bytes) (loads : Bytes → Option State)
    (compress decompress : Bytes → Bytes) (empty : State)
    (hjson : ∀ s, loads (dumps s) = some s) (hz : ∀ b, decompress (compress b) = b)
    (hvalid : ∀ b, Valid (compress b)) (s : State) :
    GenTree.decodeSeqGen decompress loads empty (GenTree.encodeSeqGen dumps compress s) = some s := by
  rw [gen_encode_seq_is_model, gen_decode_seq_is_model, b64_roundtrip _ (hvalid _)]
  simp [hz, hjson]

end Translated

/-! ### the expansion state (DTML/TreeState.lean) -/

open DTML.TreeState DTML.Lemmas.TreeState DTML.Lemmas.TreeGen

/-- the model's `applyDiff` is `apply_diff` of the source.  `GenTreeState.applyDiffGen` is regenerated on every run by
translating TreeTag.apply_diff in /repo statement by statement (harness/trans_tree.py): the cursor walk with its
in-place changes becomes a recursion that returns the updated list (one iteration of the outer `while diff:` = one
level; a step of the cursor into an entry rebuilds that entry with the result).  The search loop, the tests `loc >= 0`,
`not diff and not expand`, `diff or expand` in the order of the source, `del s[loc]`, `s = s[loc]`,
`s.append([id, []]); s = s[-1][1]` and the inner loop are emitted as they stand.  `some` on the right: the walk never
raises an IndexError and never goes round with the cursor off an entry. -/
theorem gen_apply_diff_is_model (state : List St) (diff : Path) (expand : Bool) :
    GenTreeState.applyDiffGen state diff expand = some (applyDiff state diff expand) := by
  unfold GenTreeState.applyDiffGen
  rw [List.reverse_reverse, loopGen_eq]
  cases diff with
  | nil => simp [applyDiff]
  | cons a t => simp

/-- a click, as the source computes it, is `click` of the model: the name `stepState` and `history_invariant` use;
`expand_adds`, `collapse_forgets_descendants` and `wf_applyDiff` say `applyDiff`, which it abbreviates -/
theorem gen_apply_diff_is_click (state : List St) (path : Path) (expand : Bool) :
    GenTreeState.applyDiffGen state path expand = some (click state path expand) :=
  gen_apply_diff_is_model state path expand

/-- **Expanding.**  After an expand click with path `p`, a path is recorded as
expanded iff it was before or it is a prefix of `p`. -/
theorem expand_adds : ∀ (p : Path) (st : List St) (q : Path),
    hasPath (applyDiff st p true) q = (hasPath st q || q.isPrefixOf p) := by
  intro p
  induction p with
  | nil => intro st q; cases q <;> simp [applyDiff, hasPath, List.isPrefixOf]
  | cons id rest ih =>
    intro st q
    cases q with
    | nil => simp [hasPath, List.isPrefixOf]
    | cons a q' =>
      rw [hasPath_applyDiff _ _ _ _ _ _ (by simp)]
      by_cases ha : a = id
      · subst ha
        simp only [if_true, ih, kidsOf, hasPath, List.isPrefixOf, beq_self_eq_true, Bool.true_and, Bool.not_true,
          Bool.and_false, Bool.not_false]
        -- an entry that was not there: the empty path below it is recorded now
        cases findId st a <;> cases q' <;> simp [hasPath_nil, List.isPrefixOf]
      · simp [ha, List.isPrefixOf]

/-- **Collapsing.**  After a collapse click on a recorded path `p` of a
well-formed state, exactly the paths extending `p` (the node and all its
descendants) are forgotten; everything else is unchanged. -/
theorem collapse_forgets_descendants : ∀ (p : Path) (st : List St) (q : Path), p ≠ [] →
    wfList st = true → hasPath st p = true →
    hasPath (applyDiff st p false) q = (hasPath st q && !(p.isPrefixOf q)) := by
  intro p
  induction p with
  | nil => intro st q h; exact absurd rfl h
  | cons id rest ih =>
    intro st q _ hw hp
    cases q with
    | nil => simp [hasPath, List.isPrefixOf]
    | cons a q' =>
      rw [hasPath_applyDiff _ _ _ _ _ _ (fun _ => hw)]
      by_cases ha : a = id
      · subst ha
        rw [hasPath_cons, Bool.and_eq_true] at hp
        rw [hasPath_cons, hp.1]
        cases rest with
        | nil => simp [List.isPrefixOf]
        | cons r rs => simp [ih (kidsOf st a) q' (by simp) (wf_kidsOf st a hw) hp.2, List.isPrefixOf]
      · simp [ha, List.isPrefixOf, Ne.symm ha]

/-- clicks keep the state well-formed -/
theorem wf_applyDiff : ∀ (p : Path) (st : List St) (e : Bool), wfList st = true →
    wfList (applyDiff st p e) = true := by
  intro p
  induction p with
  | nil => intro st e h; simpa [applyDiff] using h
  | cons id rest ih =>
    intro st e hw
    rw [applyDiff_cons]
    apply wf_setEntry _ _ _ _ hw
    intro x
    split
    · simp
    · rintro ⟨⟩
      exact ih _ _ (wf_kidsOf st id hw)

mutual
theorem rowsOf_spec (E : Path → Bool) : ∀ (t : T) (substate : List St) (pre : Path),
    (∀ q, E (pre ++ q) = hasPath substate q) → rowsOf t substate pre = specOf E t pre
  | .node id kids, substate, pre, h => by
    have hE : E (pre ++ [id]) = (findId substate id).isSome := by
      rw [h [id], hasPath_cons]
      exact Bool.and_true _
    simp only [rowsOf, specOf, hE]
    congr 1
    cases hk : kids.isEmpty with
    | true => simp
    | false =>
      cases hf : findId substate id with
      | none => simp
      | some s =>
        apply rowsList_spec E kids s.kids (pre ++ [id])
        intro q
        rw [List.append_assoc, h ([id] ++ q)]
        simp [hasPath, hf]
theorem rowsList_spec (E : Path → Bool) : ∀ (ts : List T) (substate : List St) (pre : Path),
    (∀ q, E (pre ++ q) = hasPath substate q) → rowsList ts substate pre = specList E ts pre
  | [], _, _, _ => by simp [rowsList, specList]
  | t :: ts, substate, pre, h => by
    simp only [rowsList, specList]
    rw [rowsOf_spec E t substate pre h, rowsList_spec E ts substate pre h]
end

/-- **Rows.**  The table shows exactly the root's children plus, recursively and
depth-first, the children of every node whose path is recorded as expanded;
each node with children carries one link, encoding its own path, which is a
collapse link exactly when the node is expanded (`specList` is that abstract
description; `Row.path`, `Row.hasLink`, `Row.expanded` are the link). -/
theorem rows_spec (root : T) (state : List St) (hroot : (findId state root.id).isSome = true) :
    render root state = specList (fun p => hasPath state p) root.kids [root.id] := by
  unfold render
  cases hf : findId state root.id with
  | none => simp [hf] at hroot
  | some s =>
    apply rowsList_spec
    simp [hasPath, hf]

/-- a click on a link the tag generated -/
inductive Click where
  | expand (p : Path)
  | collapse (p : Path)

def stepState (st : List St) : Click → List St
  | .expand p => click st p true
  | .collapse p => click st p false

/-- the abstract specification: the set of expanded paths, as a predicate -/
def stepSpec (E : Path → Bool) : Click → (Path → Bool)
  | .expand p => fun q => E q || q.isPrefixOf p
  | .collapse p => fun q => E q && !(p.isPrefixOf q)

/-- a history in which every collapse click targets a path that is expanded at
that moment (the tag only generates collapse links for expanded nodes) -/
def ValidHistory : List St → List Click → Prop
  | _, [] => True
  | st, c :: cs =>
    (match c with
     | .expand _ => True
     | .collapse p => p ≠ [] ∧ hasPath st p = true) ∧ ValidHistory (stepState st c) cs

/-- **History invariant (refinement).**  For every history of clicks on links
the tag generated, starting from any well-formed state, the concrete nested-list
state records exactly the paths the abstract set-of-paths specification
contains: expanding adds the path (and its prefixes), collapsing removes the
path and everything below it. -/
theorem history_invariant : ∀ (cs : List Click) (st : List St) (E : Path → Bool),
    wfList st = true → (∀ q, hasPath st q = E q) → ValidHistory st cs →
    (∀ q, hasPath (cs.foldl stepState st) q = (cs.foldl stepSpec E) q) ∧
    wfList (cs.foldl stepState st) = true := by
  intro cs
  induction cs with
  | nil => intro st E hw h _; exact ⟨h, hw⟩
  | cons c cs ih =>
    intro st E hw h hv
    obtain ⟨hc, hrest⟩ := hv
    apply ih (stepState st c) (stepSpec E c)
    · cases c <;> exact wf_applyDiff _ _ _ hw
    · intro q
      cases c with
      | expand p => simp only [stepState, stepSpec, click, expand_adds, h]
      | collapse p =>
        simp only [stepState, stepSpec, click]
        rw [collapse_forgets_descendants p st q hc.1 hw hc.2, h]
    · exact hrest

private theorem id_node (i : Nat) (k : List St) : (St.node i k).id = i := rfl
private theorem kids_node (i : Nat) (k : List St) : (St.node i k).kids = k := rfl

/-- the initial (and collapse_all) state: well-formed, only the root recorded -/
theorem init_state (root : T) :
    wfList (initState root) = true ∧
    ∀ q, hasPath (initState root) q = (q == [] || q == [root.id]) := by
  constructor
  · simp [initState, wfList, wfSt]
  · intro q
    cases q with
    | nil => simp [hasPath]
    | cons a q' =>
      simp only [initState, hasPath, findId_cons, id_node]
      by_cases ha : root.id = a
      · subst ha; cases q' <;> simp [kids_node, hasPath_nil]
      · simp [ha, findId, Ne.symm ha]

example : ValidHistory (initState (.node 0 [.node 1 [.node 2 []]]))
    [.expand [0, 1], .collapse [0, 1]] := by
  refine ⟨trivial, ⟨by decide, by decide⟩, trivial⟩

/-! #### tpStateLevel and tpValuesIds of the source

`GenTreeState.stateLevelGen` / `valuesIdsGen` are regenerated on every run from TreeTag.tpStateLevel / tpValuesIds
(harness/trans_tree.py). -/

/-- tpStateLevel is the model's depth, however the entries without sub-entries are written (`two s` = the entry `s` is
written with its sub-list, `len(sub) == 2`; an entry that has sub-entries is) -/
theorem gen_state_level_is_model (two : St → Bool) (h : ∀ s : St, s.kids ≠ [] → two s = true)
    (state : List St) (level : Nat) :
    GenTreeState.stateLevelGen two state level = max level (depthList state) :=
  Lemmas.TreeGen.stateLevelGen_eq two h state level

/-- the two uniform ways of writing: `[id]` whenever there is no sub-entry (what `tpValuesIds` builds), `[id, []]`
always (what `apply_diff` builds) - the hypothesis of `gen_state_level_is_model` is not vacuous -/
theorem gen_state_level_default (state : List St) :
    GenTreeState.stateLevelGen (fun s => !s.kids.isEmpty) state 0 = depthList state ∧
    GenTreeState.stateLevelGen (fun _ => true) state 0 = depthList state := by
  constructor
  · rw [gen_state_level_is_model _ (fun s hs => by simpa using hs) state 0]
    exact Nat.zero_max _
  · rw [gen_state_level_is_model _ (fun _ _ => rfl) state 0]
    exact Nat.zero_max _

mutual
theorem pathsOf_le_depth : ∀ (s : St) (pre p : Path), p ∈ pathsOf s pre → p.length ≤ pre.length + depthSt s
  | .node id kids, pre, p, hp => by
    simp only [pathsOf, List.mem_cons] at hp
    simp only [depthSt]
    rcases hp with rfl | hp
    · simp only [List.length_append, List.length_cons, List.length_nil]; omega
    · have := pathsList_le_depth kids (pre ++ [id]) p hp
      simp only [List.length_append, List.length_cons, List.length_nil] at this
      omega
/-- **Depth.**  No path recorded in a state is longer than the level tpStateLevel computes (the colspan of the table) -/
theorem pathsList_le_depth : ∀ (st : List St) (pre p : Path), p ∈ pathsList st pre →
    p.length ≤ pre.length + depthList st
  | [], _, _, hp => by simp [pathsList] at hp
  | s :: ss, pre, p, hp => by
    simp only [pathsList, List.mem_append] at hp
    simp only [depthList]
    rcases hp with hp | hp
    · have := pathsOf_le_depth s pre p hp; omega
    · have := pathsList_le_depth ss pre p hp; omega
end

mutual
theorem depthSt_attained : ∀ (s : St) (pre : Path), ∃ p ∈ pathsOf s pre, p.length = pre.length + depthSt s
  | .node id kids, pre => by
    simp only [pathsOf, depthSt]
    by_cases hk : kids = []
    · subst hk
      exact ⟨pre ++ [id], by simp, by simp [depthList]⟩
    · obtain ⟨p, hp, hl⟩ := depthList_attained kids (pre ++ [id]) hk
      refine ⟨p, by simp [hp], ?_⟩
      simp only [List.length_append, List.length_cons, List.length_nil] at hl
      omega
/-- a non-empty state records a path of exactly the length tpStateLevel computes: the length of the longest path -/
theorem depthList_attained : ∀ (st : List St) (pre : Path), st ≠ [] →
    ∃ p ∈ pathsList st pre, p.length = pre.length + depthList st
  | [], _, h => absurd rfl h
  | s :: ss, pre, _ => by
    simp only [pathsList, depthList]
    by_cases hm : depthList ss ≤ depthSt s
    · obtain ⟨p, hp, hl⟩ := depthSt_attained s pre
      exact ⟨p, by simp [hp], by omega⟩
    · have hne : ss ≠ [] := by
        intro h
        subst h
        simp [depthList] at hm
      obtain ⟨p, hp, hl⟩ := depthList_attained ss pre hne
      exact ⟨p, by simp [hp], by omega⟩
end

/-- tpValuesIds of a node is the model's `allIdsList` of its children -/
theorem gen_values_ids_is_model (t : T) : GenTreeState.valuesIdsGen t = allIdsList t.kids :=
  Lemmas.TreeGen.valuesIdsGen_eq t

/-- `state = [id, tpValuesIds(self, get_items, args)]` (expand_all) is `expandAllState` -/
theorem gen_values_ids_is_expand_all (root : T) :
    [St.node root.id (GenTreeState.valuesIdsGen root)] = expandAllState root := by
  rw [gen_values_ids_is_model]; rfl

end DTML.Props.C20
