/-
C16 — Summary statistics inside dtml-in equal independently computed values.
Model: DTML/Stats.lean (rationals).  Mathlib tactics (ring, field_simp,
linarith) and ℚ lemmas are used in this file only.  At the end: `statistics()` as translated from the source
(GenStats.lean) computes the model.
-/
import DTML.Stats
import DTML.GenStats
import Mathlib.Tactic.Ring
import Mathlib.Tactic.FieldSimp
import Mathlib.Tactic.Linarith
import Mathlib.Data.Rat.Floor
namespace DTML.Props.C16
open DTML.Stats

/-- the loop variables in closed form: the running extremes are `List.min?` / `List.max?` of what has been seen -/
private theorem foldl_step (xs : List ℚ) : ∀ a : Acc, xs.foldl step a =
    { count := a.count + xs.length, sum := a.sum + xs.sum, sumsq := a.sumsq + (xs.map fun x => x * x).sum,
      min := (a.min.toList ++ xs).min?, max := (a.max.toList ++ xs).max? } := by
  induction xs with
  | nil =>
    intro a
    obtain ⟨c, s, q, mn, mx⟩ := a
    cases mn <;> cases mx <;> simp
  | cons x xs ih =>
    intro a
    have hmin : ∀ m : ℚ, (if x < m then x else m) = min m x := fun m => by rw [min_comm, min_def_lt]
    have hmax : ∀ m : ℚ, (if x > m then x else m) = max m x := fun m => (max_def_lt m x).symm
    rw [List.foldl_cons, ih]
    congr 1
    · simp only [step, List.length_cons]
      omega
    · rw [List.sum_cons]
      exact add_assoc ..
    · rw [List.map_cons, List.sum_cons]
      exact add_assoc ..
    -- `(m :: x :: xs).min?` is by definition `(min m x :: xs).min?`
    · cases h : a.min <;> simp only [step, h, hmin] <;> rfl
    · cases h : a.max <;> simp only [step, h, hmax] <;> rfl

private theorem pass_eq (xs : List ℚ) : pass xs =
    { count := xs.length, sum := xs.sum, sumsq := (xs.map fun x => x * x).sum, min := xs.min?, max := xs.max? } := by
  simp [pass, foldl_step]

/-- count-x is the number of values, total-x their sum -/
theorem count_total_spec (xs : List ℚ) :
    (pass xs).count = xs.length ∧ (pass xs).sum = xs.sum ∧
    (pass xs).sumsq = (xs.map (fun x => x * x)).sum := by
  rw [pass_eq]; exact ⟨rfl, rfl, rfl⟩

/-- None values are ignored: the statistics are those of the non-None values -/
theorem none_ignored (items : List (Option ℚ)) :
    numeric items = items.filterMap id ∧ (∀ x, x ∈ numeric items ↔ some x ∈ items) := by
  refine ⟨rfl, fun x => ?_⟩
  simp [numeric]

/-- mean-x is the arithmetic mean -/
theorem mean_spec (xs : List ℚ) : mean xs = xs.sum / xs.length := by
  simp [mean, (count_total_spec xs).2.1]

private theorem sum_sq_dev (xs : List ℚ) (m : ℚ) :
    (xs.map (fun x => (x - m) ^ 2)).sum =
      (xs.map (fun x => x * x)).sum - 2 * m * xs.sum + xs.length * m ^ 2 := by
  induction xs with
  | nil => simp
  | cons x xs ih =>
    simp only [List.map_cons, List.sum_cons, List.length_cons, ih]
    push_cast
    ring

/-- variance-n-x (computed as Σx²/n − mean²) is the population variance -/
theorem variance_n_eq (xs : List ℚ) (h : xs ≠ []) :
    varianceN xs = (xs.map (fun x => (x - mean xs) ^ 2)).sum / xs.length := by
  have hn : (xs.length : ℚ) ≠ 0 := Nat.cast_ne_zero.mpr (mt List.length_eq_zero_iff.mp h)
  rw [sum_sq_dev, varianceN, mean_spec, (count_total_spec xs).2.2]
  field_simp
  ring

/-- variance-x (computed as variance-n · n/(n−1)) is the sample variance -/
theorem variance_eq (xs : List ℚ) (h : 1 < xs.length) :
    variance xs = (xs.map (fun x => (x - mean xs) ^ 2)).sum / (xs.length - 1) := by
  have hne : xs ≠ [] := List.ne_nil_of_length_pos (by omega)
  have hn : (xs.length : ℚ) ≠ 0 := Nat.cast_ne_zero.mpr (by omega)
  rw [variance, variance_n_eq xs hne, div_mul_cancel₀ _ hn]

private theorem list_sum_nonneg (l : List ℚ) (h : ∀ y ∈ l, 0 ≤ y) : 0 ≤ l.sum := by
  induction l with
  | nil => simp
  | cons a l ih =>
    rw [List.sum_cons]
    exact add_nonneg (h a List.mem_cons_self) (ih fun y hy => h y (List.mem_cons_of_mem _ hy))

/-- the variances are non-negative, so standard-deviation-x / -n-x (their
square roots, computed by `math.sqrt`: external) are defined -/
theorem variance_nonneg (xs : List ℚ) (h : xs ≠ []) :
    0 ≤ varianceN xs ∧ (1 < xs.length → 0 ≤ variance xs) := by
  have hs : 0 ≤ (xs.map (fun x => (x - mean xs) ^ 2)).sum := by
    apply list_sum_nonneg
    intro y hy
    obtain ⟨x, _, rfl⟩ := List.mem_map.mp hy
    exact sq_nonneg _
  constructor
  · rw [variance_n_eq xs h]
    exact div_nonneg hs (Nat.cast_nonneg _)
  · intro h1
    rw [variance_eq xs h1]
    exact div_nonneg hs (sub_nonneg.mpr (Nat.one_le_cast.mpr h1.le))

/-- min-x and max-x are the extremes: members of the list bounding all others -/
theorem min_max_spec (xs : List ℚ) (h : xs ≠ []) :
    ∃ lo hi, (pass xs).min = some lo ∧ (pass xs).max = some hi ∧
      lo ∈ xs ∧ hi ∈ xs ∧ ∀ x ∈ xs, lo ≤ x ∧ x ≤ hi := by
  obtain ⟨lo, hlo⟩ := Option.ne_none_iff_exists'.mp (mt List.min?_eq_none_iff.mp h)
  obtain ⟨hi, hhi⟩ := Option.ne_none_iff_exists'.mp (mt List.max?_eq_none_iff.mp h)
  obtain ⟨h1, h2⟩ := List.min?_eq_some_iff.mp hlo
  obtain ⟨h3, h4⟩ := List.max?_eq_some_iff.mp hhi
  rw [pass_eq]
  exact ⟨lo, hi, hlo, hhi, h1, h3, fun x hx => ⟨h2 x hx, h4 x hx⟩⟩

private theorem sorted_facts (xs : List ℚ) :
    (sorted xs).length = xs.length ∧ (sorted xs).Perm xs ∧
    ∀ i j (hi : i < (sorted xs).length) (hj : j < (sorted xs).length), i < j →
      (sorted xs)[i] ≤ (sorted xs)[j] := by
  have hp : (sorted xs).Perm xs := List.mergeSort_perm xs _
  have hs : (sorted xs).Pairwise (fun a b => decide (a ≤ b) = true) :=
    List.pairwise_mergeSort (le := fun a b => decide (a ≤ b))
      (fun a b c h1 h2 => by simp at *; exact le_trans h1 h2)
      (fun a b => by simp; exact le_total a b) xs
  refine ⟨hp.length_eq, hp, ?_⟩
  intro i j hi hj hij
  have := (List.pairwise_iff_getElem.mp hs) i j hi hj hij
  simpa using this

/-- the value shown for an even count lies between the two middle values (an int `lo` stays below the floor) -/
private theorem mid_between (isInt : Bool) (lo hi : ℚ) (hle : lo ≤ hi) (hk : isInt = true → ∃ k : ℤ, lo = k) :
    lo ≤ (if isInt then (((hi + lo) / 2).floor : ℚ) else (hi + lo) / 2) ∧
    (if isInt then (((hi + lo) / 2).floor : ℚ) else (hi + lo) / 2) ≤ hi := by
  have hm : lo ≤ (hi + lo) / 2 ∧ (hi + lo) / 2 ≤ hi := by constructor <;> linarith
  cases isInt with
  | false => exact hm
  | true =>
    obtain ⟨k, rfl⟩ := hk rfl
    exact ⟨Int.cast_le.mpr (Rat.le_floor_iff.mpr hm.1), (Int.floor_le _).trans hm.2⟩

/-- **median-x.**  One value: that value.  Odd count: the middle element of the
sorted values.  Even count: a value between the two middle elements `lo ≤ hi` —
for ints the floor of their mean, otherwise their mean. -/
theorem median_spec (isInt : Bool) (xs : List ℚ) (hne : xs ≠ [])
    (hint : isInt = true → ∀ x ∈ xs, ∃ k : ℤ, x = k) :
    (xs.length % 2 ≠ 0 → 1 < xs.length → median isInt xs = (sorted xs)[xs.length / 2]?) ∧
    (xs.length % 2 = 0 → ∃ lo hi m, (sorted xs)[xs.length / 2 - 1]? = some lo ∧
        (sorted xs)[xs.length / 2]? = some hi ∧ lo ≤ hi ∧ median isInt xs = some m ∧ lo ≤ m ∧ m ≤ hi ∧
        m = (if isInt then (((hi + lo) / 2).floor : ℚ) else (hi + lo) / 2)) := by
  obtain ⟨hlen, hperm, hsort⟩ := sorted_facts xs
  have hpos : 0 < xs.length := List.length_pos_iff.mpr hne
  constructor
  · intro hodd h1
    simp only [median]
    rw [if_neg hpos.ne', if_neg h1.ne', if_pos hodd]
  · intro heven
    have h1 : xs.length / 2 - 1 < (sorted xs).length := by omega
    have h2 : xs.length / 2 < (sorted xs).length := by omega
    have hle := hsort _ _ h1 h2 (by omega)
    obtain ⟨hlo, hhi⟩ := mid_between isInt _ _ hle (fun h => hint h _ (hperm.subset (List.getElem_mem h1)))
    refine ⟨(sorted xs)[xs.length / 2 - 1], (sorted xs)[xs.length / 2], _, List.getElem?_eq_getElem h1,
      List.getElem?_eq_getElem h2, hle, ?_, hlo, hhi, rfl⟩
    simp only [median]
    rw [if_neg hpos.ne', if_neg (by omega), if_neg (not_not.mpr heven), List.getElem?_eq_getElem h1,
      List.getElem?_eq_getElem h2]

/-! ### The model is what the source says

`GenStats.stepGen`, `derivedGen` and `medianGen` are regenerated on every run by translating the statements of
`sequence_variables.statistics` in /repo (harness/trans_stats.py).  The theorems below prove that they compute the
hand-written model about which the property theorems above are stated; a change of `statistics()` changes the generated
side and they stop checking. -/

/-- one numeric item: the loop variables after the translated loop body are `Stats.step`'s (and the value is appended to
`values`, whose length is the `count` used afterwards) — whether the item is an int (`s = item * int(item)`) or not.
`s0` is what the loop variable `s` still holds from the item before (it is overwritten before it is read); `hmm`: `min`
and `max` are None together, which the loop keeps -/
theorem gen_statistics_step_is_model (isInt : Bool) (a : Acc) (vals : List ℚ) (s0 x : ℚ)
    (hmm : a.min = none ↔ a.max = none) :
    let g := GenStats.stepGen isInt ⟨a.sum, a.sumsq, s0, a.min, a.max, vals⟩ x
    g.sum = (step a x).sum ∧ g.sumsq = (step a x).sumsq ∧ g.min = (step a x).min ∧ g.max = (step a x).max ∧
    g.values = vals ++ [x] ∧ ((step a x).min = none ↔ (step a x).max = none) := by
  obtain ⟨c, sm, sq, mn, mx⟩ := a
  cases mn with
  | none =>
    -- the first numeric item: the source sets `min` and `max` together
    have hmx : mx = none := hmm.mp rfl
    subst hmx
    simp [GenStats.stepGen, step]
  | some m =>
    cases mx with
    | none => exact absurd (hmm.mpr rfl) (by simp)
    | some M =>
      -- a later item: compared with `min`, then with `max`
      by_cases h1 : x < m <;> by_cases h2 : x > M <;>
        simp [GenStats.stepGen, step, GenStats.ltO, GenStats.gtO, h1, h2]

/-- the whole accumulation loop over numeric items: sum, sum of squares, min, max as `Stats.pass`, `values` = the items
(`min` and `max` are None together: the source sets both at the first numeric item) -/
theorem gen_statistics_loop_is_model (isInt : Bool) (xs : List ℚ) :
    let g := xs.foldl (GenStats.stepGen isInt) ⟨0, 0, 0, none, none, []⟩
    g.sum = (pass xs).sum ∧ g.sumsq = (pass xs).sumsq ∧ g.min = (pass xs).min ∧ g.max = (pass xs).max ∧
    g.values = xs := by
  have gen : ∀ (ys : List ℚ) (a : Acc) (vals : List ℚ) (s0 : ℚ), (a.min = none ↔ a.max = none) →
      let g := ys.foldl (GenStats.stepGen isInt) ⟨a.sum, a.sumsq, s0, a.min, a.max, vals⟩
      g.sum = (ys.foldl step a).sum ∧ g.sumsq = (ys.foldl step a).sumsq ∧ g.min = (ys.foldl step a).min ∧
      g.max = (ys.foldl step a).max ∧ g.values = vals ++ ys := by
    intro ys
    induction ys with
    | nil => intro a vals s0 _; simp
    | cons y ys ih =>
      intro a vals s0 hmm
      simp only [List.foldl_cons]
      obtain ⟨h1, h2, h3, h4, h5, h6⟩ := gen_statistics_step_is_model isInt a vals s0 y hmm
      generalize GenStats.stepGen isInt ⟨a.sum, a.sumsq, s0, a.min, a.max, vals⟩ y = g at h1 h2 h3 h4 h5
      obtain ⟨gs, gq, g0, gmn, gmx, gv⟩ := g
      subst h1 h2 h3 h4 h5
      have := ih (step a y) (vals ++ [y]) g0 h6
      simpa using this
  have := gen xs {} [] 0 (by simp)
  simpa [pass] using this

/-- the block of numeric statistics: mean, total, variance-n and its root, and for more than one value variance and its
root (otherwise empty strings) — the values of `Stats.mean / varianceN / variance`.  The statement `if sumsq < 0:
sumsq = 0.0` of the source is part of the translation; on exact numbers it never fires (`variance_nonneg`). -/
theorem gen_statistics_derived_is_model (xs : List ℚ) (h : xs ≠ []) :
    GenStats.derivedGen xs.length (pass xs).sum (pass xs).sumsq =
      [("mean", .num (mean xs)), ("total", .num (pass xs).sum), ("variance-n", .num (varianceN xs)),
       ("standard-deviation-n", .sqrt (varianceN xs))] ++
      (if xs.length > 1 then [("variance", .num (variance xs)), ("standard-deviation", .sqrt (variance xs))]
       else [("variance", .empty), ("standard-deviation", .empty)]) := by
  -- what the source tests against 0 is `varianceN xs`, written out
  have hv : ¬ (pass xs).sumsq / (xs.length : ℚ) -
      (pass xs).sum / (xs.length : ℚ) * ((pass xs).sum / (xs.length : ℚ)) < 0 :=
    not_lt.mpr (variance_nonneg xs h).1
  simp only [GenStats.derivedGen]
  rw [if_neg hv]
  by_cases h1 : xs.length > 1
  · rw [if_pos h1, if_pos h1]
    rfl
  · rw [if_neg h1, if_neg h1]
    rfl

/-- the median rule: the translated rule applied to the sorted values is `Stats.median` -/
theorem gen_statistics_median_is_model (isInt : Bool) (xs : List ℚ) (h : xs ≠ []) :
    GenStats.medianGen isInt (sorted xs) xs.length (pass xs).min = median isInt xs := by
  have hpos : 0 < xs.length := List.length_pos_iff.mpr h
  have h0 : ¬ xs.length = 0 := by omega
  simp only [GenStats.medianGen, median, h0, if_false]
  by_cases h1 : xs.length = 1
  · simp [h1]
  · simp only [h1, if_false]
    by_cases h2 : xs.length % 2 ≠ 0
    · simp [h2]
    · simp only [h2, if_false]
      -- a middle element that is not there makes both sides `none`
      cases (sorted xs)[xs.length / 2]? with
      | none => rfl
      | some hi => cases (sorted xs)[xs.length / 2 - 1]? <;> rfl

/-- non-vacuity: a concrete list -/
example : mean [1, 2, 3, 6] = 3 ∧ varianceN [1, 2, 3, 6] = 7 / 2 ∧ variance [1, 2, 3, 6] = 14 / 3 := by
  refine ⟨by norm_num [mean, pass, step], by norm_num [varianceN, mean, pass, step],
    by norm_num [variance, varianceN, mean, pass, step]⟩

end DTML.Props.C16
