/-
C02 — Names resolve by documented source precedence; block bindings are scoped.
Model: DTML/Render.lean (`callStack` = the namespace String.__call__ builds, `initvars`,
`lookupStack`/`frameGet` = TemplateDict.getitem over dictionaries and InstanceDicts,
`getitem` with/without auto-call, `callSub` = a template invoked by name).
The lookups go through Lemmas/Lookup, the scoping theorems through Props/C08 and Lemmas/Cache.
After them, the obligations on the source as translated on every run: `InstanceDict.__getitem__` and
`TemplateDict.getitem` (GenNs, harness/trans_ns.py), `String.__call__` (GenCall, with Lemmas/Call), `TemplateDict.__getitem__` /
`__contains__` / `has_key` / `__len__` (GenStack), the fetch part of `Var.render` (GenFetch, with Lemmas/Fetch).
-/
import DTML.Render
import DTML.Props.C08
import DTML.Lemmas.Cache
import DTML.GenNs
import DTML.GenStack
import DTML.Lemmas.Call
import DTML.Lemmas.Fetch
import DTML.Lemmas.Lookup
namespace DTML.Props.C02
open DTML.Render

/-- the value a client object offers for `n`: its attribute, unless the name is private
(starts with an underscore; only `__str__` is answered, with the object's string form) -/
def clientAttr (n : Text) (v : Val) : Option Val :=
  if n.head? = some '_' then (if n = "__str__".toList then some (.str (ustr v)) else none)
  else match v with
    | .obj _ attrs => attrs.lookup n
    | _ => none

/-- the value a frame offers for `n` (attribute caches aside) -/
def frameOffer (n : Text) : Frame → Option Val
  | .dict kvs => kvs.lookup n
  | .inst v _ => clientAttr n v
  | _ => none

/-- frames as String.__call__ / the block tags create them: dictionaries and instances with an
empty attribute cache -/
def Fresh : Frame → Prop
  | .dict _ => True
  | .inst _ c => c = []
  | _ => False

/-- the frames a running render holds: dictionaries, and instances whose attribute cache only
repeats the object's own public attributes (an invariant of every interpreter function:
`Lemmas.Cache.all_cons`) -/
def Consistent : Frame → Prop
  | .dict _ => True
  | .inst v c => Lemmas.Cache.ConsF (.inst v c)
  | _ => False

theorem fresh_consistent (f : Frame) (h : Fresh f) : Consistent f := by
  cases f with
  | dict _ => trivial
  | inst v c =>
    cases h
    exact Lemmas.Cache.consF_fresh v
  | seq _ => exact h.elim
  | bad => exact h.elim

/-- without a guard a consistent frame answers exactly with what it offers, cache or no cache — and nothing is traced -/
theorem frameGet_consistent (env : Env) (hg : env.guardOn = false) (f : Frame) (hf : Consistent f) (n : Text)
    (tr : List Event) :
    (match frameOffer n f with
     | some v => ∃ f', frameGet env f n tr = (.val v f', tr)
     | none => frameGet env f n tr = (.missing, tr)) := by
  cases f with
  | seq sv => exact hf.elim
  | bad => exact hf.elim
  | dict kvs =>
    rw [frameGet_dict, frameOffer]
    cases kvs.lookup n with
    | some v => exact ⟨_, rfl⟩
    | none => rfl
  | inst v c =>
    simp only [frameOffer, clientAttr]
    cases hc : c.lookup n with
    | some a =>
      -- a cached value repeats the object's own public attribute
      rw [frameGet_inst_hit env n tr hc]
      cases v with
      | obj id attrs =>
        obtain ⟨h1, h2⟩ := hf n a hc
        simp only [if_neg h2, h1]
        exact ⟨_, rfl⟩
      | _ =>
        -- the cache of anything but an object is empty
        simp only [Consistent, Lemmas.Cache.ConsF] at hf
        subst hf
        cases hc
    | none =>
      by_cases hu : n.head? = some '_'
      · rw [frameGet_inst_private env n tr hc hu, if_pos hu]
        by_cases hs : n = "__str__".toList
        · rw [if_pos hs, if_pos hs]
          exact ⟨_, rfl⟩
        · rw [if_neg hs, if_neg hs]
      · rw [if_neg hu]
        cases v with
        | obj id attrs =>
          rw [frameGet_inst_obj env n tr hc hu]
          simp only [hg, Bool.false_and, Bool.false_eq_true, if_false]
          cases attrs.lookup n with
          | some a => exact ⟨_, rfl⟩
          | none => rfl
        | _ => exact frameGet_inst_other env n tr hc hu (fun _ _ h => nomatch h)

/-- without a guard, a fresh frame answers exactly with what it offers — and nothing is traced -/
theorem frameGet_fresh (env : Env) (hg : env.guardOn = false) (f : Frame) (hf : Fresh f) (n : Text) (tr : List Event) :
    (match frameOffer n f with
     | some v => ∃ f', frameGet env f n tr = (.val v f', tr)
     | none => frameGet env f n tr = (.missing, tr)) :=
  frameGet_consistent env hg f (fresh_consistent f hf) n tr

/-- **Innermost first, on any namespace a render can hold**: the namespace answers with the first (topmost) frame that
offers the name; frames below it are not consulted; when no frame offers it the name is undefined. -/
theorem lookup_first_offer_consistent (env : Env) (hg : env.guardOn = false) :
    ∀ (fs : List Frame), (∀ f ∈ fs, Consistent f) → ∀ (n : Text) (tr : List Event),
    (match fs.findSome? (frameOffer n) with
     | some v => ∃ fs', lookupStack env fs n tr = (.val v fs', tr)
     | none => lookupStack env fs n tr = (.missing, tr)) :=
  fun fs hfr n tr =>
    lookupStack_first_offer env n tr (frameOffer n) fs fun f hf => frameGet_consistent env hg f (hfr f hf) n tr

/-- **Innermost first**, on the frames String.__call__ and the block tags create -/
theorem lookup_first_offer (env : Env) (hg : env.guardOn = false) :
    ∀ (fs : List Frame), (∀ f ∈ fs, Fresh f) → ∀ (n : Text) (tr : List Event),
    (match fs.findSome? (frameOffer n) with
     | some v => ∃ fs', lookupStack env fs n tr = (.val v fs', tr)
     | none => lookupStack env fs n tr = (.missing, tr)) :=
  fun fs hfr => lookup_first_offer_consistent env hg fs fun f hf => fresh_consistent f (hfr f hf)

/-- **the documented order**: call keyword arguments, variables set on the template, the client
objects (the last of a tuple first), the call mapping, the template's construction-time defaults -/
def precedence (t : Template) (c : CallArgs) (n : Text) : Option Val :=
  (c.kw.lookup n).or <| (t.vars.lookup n).or <| (c.clients.reverse.findSome? (clientAttr n)).or <|
    (c.mapping.lookup n).or <| t.globals.lookup n

private theorem findSome_dictIf (kvs : List (Text × Val)) (n : Text) :
    (if kvs.isEmpty then ([] : List Frame) else [Frame.dict kvs]).findSome? (frameOffer n) = kvs.lookup n := by
  cases kvs with
  | nil => simp [List.lookup]
  | cons a t => simp [frameOffer]

private theorem findSome_clients (cs : List Val) (n : Text) :
    (cs.map (fun v => Frame.inst v [])).findSome? (frameOffer n) = cs.findSome? (clientAttr n) :=
  List.findSome?_map

theorem callStack_offer (t : Template) (c : CallArgs) (n : Text) :
    (callStack t c).findSome? (frameOffer n) = precedence t c n := by
  unfold callStack precedence
  simp only [List.reverse_append, List.findSome?_append]
  simp only [apply_ite List.reverse, List.reverse_nil, List.reverse_singleton, findSome_dictIf, ← List.map_reverse,
    findSome_clients]

theorem callStack_fresh (t : Template) (c : CallArgs) : ∀ f ∈ callStack t c, Fresh f := by
  intro f hf
  simp only [callStack, List.mem_reverse, List.mem_append, List.mem_map, List.mem_ite_nil_left,
    List.mem_singleton] at hf
  -- a dictionary that is not empty, or the instance of a client with an empty cache
  rcases hf with (((⟨_, rfl⟩ | ⟨_, rfl⟩) | ⟨v, _, rfl⟩) | ⟨_, rfl⟩) | ⟨_, rfl⟩ <;> trivial

/-- **Name resolution precedence.**  In the namespace of a top-level call
`template(client, mapping, **kw)` a name resolves to the value of the highest-priority source
that defines it — keyword arguments, then template variables, then the client objects (last
first, private names never), then the call mapping, then the template's defaults — and is
undefined when no source defines it.  Nothing else is consulted and no event is traced. -/
theorem lookup_precedence (env : Env) (hg : env.guardOn = false) (t : Template) (c : CallArgs)
    (n : Text) (tr : List Event) :
    (match precedence t c n with
     | some v => ∃ fs', lookupStack env (callStack t c) n tr = (.val v fs', tr)
     | none => lookupStack env (callStack t c) n tr = (.missing, tr)) := by
  have := lookup_first_offer env hg (callStack t c) (callStack_fresh t c) n tr
  rw [callStack_offer] at this
  exact this

/-- the template's defaults: construction-time keyword arguments first, then the
construction-time mapping (whose private keys are not taken over) -/
theorem initvars_lookup (ckw cmapping : List (Text × Val)) (n : Text) :
    (initvars ckw cmapping).lookup n =
      (ckw.lookup n).or (if n.head? = some '_' then none else cmapping.lookup n) := by
  rw [initvars, List.lookup_append,
    lookup_filter_key (fun k => k.head? != some '_' && !(ckw.any (·.1 == k))) cmapping n]
  cases hk : ckw.lookup n with
  | some v => rfl
  | none =>
    -- no keyword of that name: the second test of the filter is true
    have hnot : ckw.any (·.1 == n) = false := by
      rw [List.any_eq_false]
      intro kv hkv
      have := List.lookup_eq_none_iff.mp hk kv hkv
      simp only [bne_iff_ne, ne_eq] at this
      simp only [beq_iff_eq]
      exact fun e => this e.symm
    by_cases hu : n.head? = some '_' <;> simp [hnot, hu]

/-- the full chain of C02 for a template built as `Template(src, cmapping, **ckw)` -/
theorem lookup_precedence_full (env : Env) (hg : env.guardOn = false) (blocks : List Blk)
    (vars ckw cmapping : List (Text × Val)) (c : CallArgs) (n : Text) (tr : List Event) :
    let t : Template := { blocks := blocks, globals := initvars ckw cmapping, vars := vars }
    (match (c.kw.lookup n).or <| (vars.lookup n).or <| (c.clients.reverse.findSome? (clientAttr n)).or <|
            (c.mapping.lookup n).or <| (ckw.lookup n).or <|
            (if n.head? = some '_' then none else cmapping.lookup n) with
     | some v => ∃ fs', lookupStack env (callStack t c) n tr = (.val v fs', tr)
     | none => lookupStack env (callStack t c) n tr = (.missing, tr)) := by
  intro t
  have := lookup_precedence env hg t c n tr
  simp only [precedence, t, initvars_lookup] at this
  exact this

/-- **Names starting with an underscore are never resolved from client objects** -/
theorem underscore_not_from_client (n : Text) (v : Val) (h : n.head? = some '_') (hs : n ≠ "__str__".toList) :
    clientAttr n v = none := by
  unfold clientAttr
  rw [if_pos h, if_neg hs]

/-- the namespace a sub-template renders in: its own variables and defaults laid on top of the
caller's current namespace -/
def subStack (t : Template) (caller : List Frame) : List Frame :=
  (if t.vars.isEmpty then [] else [Frame.dict t.vars]) ++
  (if t.globals.isEmpty then [] else [Frame.dict t.globals]) ++ caller

/-- what the caller gets from the sub-template's rendering: its joined text, or the value of a
dtml-return, or its exception -/
def subOutcome (env : Env) : Res (List Piece) → Res Val
  | .ok ps => (match joinPieces env ps with
      | .ok p => .ok (valOfPiece p)
      | .raise e => .raise e
      | _ => .oom)
  | .ret v => .ok v
  | .raise e => .raise e
  | .oom => .oom

theorem callResult_eq (env : Env) (x : Res (List Piece) × St) : callResult env x = (subOutcome env x.1, x.2) := by
  obtain ⟨r, s⟩ := x
  cases r with
  | ok ps =>
    simp only [callResult, subOutcome]
    cases joinPieces env ps <;> rfl
  | _ => rfl

/-- **A template invoked by name sees the caller's current namespace with its own defaults on
top**, one level deeper: its blocks are rendered in `subStack t caller`; the frames it pushed
are popped and the level restored afterwards (and, C08, the caller's namespace is as before). -/
theorem subtemplate_sees_caller (env : Env) (fuel id : Nat) (t : Template) (st : St)
    (ht : env.templates[id]? = some t) (hl : ¬ st.level > 200) :
    let r := renderBlocks env fuel t.blocks { st with stack := subStack t st.stack, level := st.level + 1 }
    callSub env (fuel + 1) id st =
      (subOutcome env r.1,
       { r.2 with stack := r.2.stack.drop ((if t.globals.isEmpty then ([] : List Frame) else [Frame.dict t.globals]).length +
                   (if t.vars.isEmpty then ([] : List Frame) else [Frame.dict t.vars]).length), level := st.level }) ∧
    (callSub env (fuel + 1) id st).2.stack.map C08.erase = st.stack.map C08.erase := by
  intro r
  refine ⟨?_, (C08.subtemplate_preserves_stack env (fuel + 1) id st).1⟩
  have hlen : (subFrames t).length = (if t.globals.isEmpty then ([] : List Frame) else [Frame.dict t.globals]).length +
      (if t.vars.isEmpty then ([] : List Frame) else [Frame.dict t.vars]).length := by
    rw [subFrames, List.length_append, Nat.add_comm]
  rw [callSub_succ, ht]
  dsimp only
  rw [if_neg hl, callResult_eq, hlen]
  rfl

/-- in the sub-template a name resolves to its own variables, then its own defaults, then
whatever the caller's namespace gives -/
theorem subtemplate_lookup (t : Template) (caller : List Frame) (n : Text) :
    (subStack t caller).findSome? (frameOffer n) =
      (t.vars.lookup n).or ((t.globals.lookup n).or (caller.findSome? (frameOffer n))) := by
  unfold subStack
  simp only [List.findSome?_append, findSome_dictIf]
  cases t.vars.lookup n <;> simp

/-- **A binding introduced by a block shadows everything outside it**: with the block's frame on
top, a name the frame offers resolves to the frame's value whatever the frames below hold -/
theorem block_binding_shadows (env : Env) (hg : env.guardOn = false) (f : Frame) (hf : Fresh f)
    (outer outer' : List Frame) (n : Text) (v : Val) (tr : List Event) (ho : frameOffer n f = some v) :
    (∃ fs', lookupStack env (f :: outer) n tr = (.val v fs', tr)) ∧
    (∃ fs', lookupStack env (f :: outer') n tr = (.val v fs', tr)) := by
  have h := frameGet_fresh env hg f hf n tr
  rw [ho] at h
  obtain ⟨f', hf'⟩ := h
  exact ⟨⟨_, lookupStack_cons_val env n tr outer hf'⟩, ⟨_, lookupStack_cons_val env n tr outer' hf'⟩⟩

/-- names the block does not bind resolve as outside it -/
theorem block_binding_transparent (env : Env) (hg : env.guardOn = false) (f : Frame) (hf : Fresh f)
    (outer : List Frame) (n : Text) (tr : List Event) (ho : frameOffer n f = none) :
    lookupStack env (f :: outer) n tr =
      (match lookupStack env outer n tr with
       | (.val v fs', tr') => (.val v (f :: fs'), tr')
       | r => r) := by
  have h := frameGet_fresh env hg f hf n tr
  rw [ho] at h
  exact lookupStack_cons_missing env n tr outer h

/-- **A block's bindings last only until its end tag**: after any block (in, with, let, if, try/except, …)
the namespace holds the same entries in the same order as before it (C08), so every binding the
block introduced is gone and every outer binding is back -/
theorem block_bindings_end (env : Env) (fuel : Nat) (b : Blk) (st : St) (n : Text) :
    ((renderBlk env fuel b st).2.stack.map C08.erase).findSome? (frameOffer n) =
    (st.stack.map C08.erase).findSome? (frameOffer n) := by
  rw [(C08.block_preserves_stack env fuel b st).1]

theorem offer_erase (n : Text) (f : Frame) : frameOffer n (C08.erase f) = frameOffer n f := by
  cases f <;> rfl

/-- consistency is consistency of the cache, in a frame of a kind the namespace holds; erasing the cache keeps the
kind -/
theorem consistent_iff (f : Frame) : Consistent f ↔ Lemmas.Cache.ConsF f ∧ Consistent (C08.erase f) := by
  cases f with
  | dict _ => exact ⟨fun _ => ⟨trivial, trivial⟩, fun _ => trivial⟩
  | inst v c => exact ⟨fun h => ⟨h, Lemmas.Cache.consF_fresh v⟩, fun h => h.1⟩
  | seq _ => exact ⟨False.elim, fun h => h.2⟩
  | bad => exact ⟨False.elim, fun h => h.2⟩

private theorem findSome_erase (n : Text) (fs : List Frame) :
    (fs.map C08.erase).findSome? (frameOffer n) = fs.findSome? (frameOffer n) := by
  rw [List.findSome?_map]
  exact congrArg (List.findSome? · fs) (funext (offer_erase n))

/-- a state with the frames of a consistent namespace (caches aside), its caches consistent if those were, answers a
lookup with what that namespace offered -/
private theorem lookup_after (env : Env) (hg : env.guardOn = false) (n : Text) (tr : List Event) (a b : St)
    (he : b.stack.map C08.erase = a.stack.map C08.erase) (hk : Lemmas.Cache.Cons a → Lemmas.Cache.Cons b)
    (hf : ∀ f ∈ a.stack, Consistent f) :
    (match a.stack.findSome? (frameOffer n) with
     | some v => ∃ fs', lookupStack env b.stack n tr = (.val v fs', tr)
     | none => lookupStack env b.stack n tr = (.missing, tr)) := by
  have hc := hk fun f h => ((consistent_iff f).mp (hf f h)).1
  have hb : ∀ g ∈ b.stack, Consistent g := by
    intro g hg
    obtain ⟨f, hfm, hfe⟩ := List.mem_map.mp (he ▸ List.mem_map_of_mem hg)
    exact (consistent_iff g).mpr ⟨hc g hg, hfe ▸ ((consistent_iff f).mp (hf f hfm)).2⟩
  have h := lookup_first_offer_consistent env hg b.stack hb n tr
  rwa [← findSome_erase, he, findSome_erase] at h

/-- **After the block's end tag every name resolves as before the block** — on the
actual namespace the block leaves behind (caches filled by the block included): whatever the block
was, whatever it bound, and however it ended (normally, by an error, or out of fuel), a lookup
of any name in the namespace after it yields exactly what the namespace before it offered. -/
theorem block_bindings_end_real (env : Env) (hg : env.guardOn = false) (fuel : Nat) (b : Blk) (st : St)
    (hc : ∀ f ∈ st.stack, Consistent f) (n : Text) (tr : List Event) :
    (match st.stack.findSome? (frameOffer n) with
     | some v => ∃ fs', lookupStack env (renderBlk env fuel b st).2.stack n tr = (.val v fs', tr)
     | none => lookupStack env (renderBlk env fuel b st).2.stack n tr = (.missing, tr)) :=
  lookup_after env hg n tr st _ (C08.block_preserves_stack env fuel b st).1
    ((Lemmas.Cache.all_cons env fuel).renderBlk b st) hc

/-- the same for a whole section of blocks, and for the namespace a top-level call builds -/
theorem section_bindings_end_real (env : Env) (hg : env.guardOn = false) (fuel : Nat) (bs : List Blk) (st : St)
    (hc : ∀ f ∈ st.stack, Consistent f) (n : Text) (tr : List Event) :
    (match st.stack.findSome? (frameOffer n) with
     | some v => ∃ fs', lookupStack env (renderBlocks env fuel bs st).2.stack n tr = (.val v fs', tr)
     | none => lookupStack env (renderBlocks env fuel bs st).2.stack n tr = (.missing, tr)) :=
  lookup_after env hg n tr st _ (C08.render_preserves_stack env fuel bs st).1
    ((Lemmas.Cache.all_cons env fuel).renderBlocks bs st) hc

/-- **Looked up by name in a tag, a callable value is called** (exactly one `call` event) -/
theorem tag_lookup_calls (env : Env) (fuel : Nat) (n : Text) (st : St) (id : Nat) (r : Val)
    (fs' : List Frame) (tr : List Event)
    (h : lookupStack env st.stack n st.trace = (.val (.fn id r) fs', tr)) :
    evalSrc env (fuel + 2) (.name n) st = invoke env id r { st with stack := fs', trace := tr } := by
  simp only [evalSrc, getitem_succ, h, if_true]

/-- **Looked up by name in a tag, a document template is rendered with the current namespace** -/
theorem tag_lookup_renders_template (env : Env) (fuel : Nat) (n : Text) (st : St) (id : Nat)
    (fs' : List Frame) (tr : List Event)
    (h : lookupStack env st.stack n st.trace = (.val (.tmpl id) fs', tr)) :
    evalSrc env (fuel + 2) (.name n) st = callSub env fuel id { st with stack := fs', trace := tr } := by
  simp only [evalSrc, getitem_succ, h, if_true]

/-- **A callable looked up by name in an expression is passed on uncalled**: no call, no event beyond the lookup's own -/
theorem expr_lookup_does_not_call (env : Env) (fuel : Nat) (n : Text) (st : St) (v : Val)
    (fs' : List Frame) (tr : List Event)
    (h : lookupStack env st.stack n st.trace = (.val v fs', tr)) :
    evalExpr env (fuel + 2) (.name n) st = (.ok v, { st with stack := fs', trace := tr }) := by
  simp only [evalExpr, getitem_succ, h, Bool.false_eq_true, if_false]

section Example
private def tpl : Template :=
  { blocks := [],
    globals := initvars [("n".toList, .int 5)] [("n".toList, .int 6), ("m".toList, .int 7), ("_p".toList, .int 8)],
    vars := [] }
private def args : CallArgs := { clients := [.obj 1 [("n".toList, .int 2), ("_p".toList, .int 9)], .obj 2 [("m".toList, .int 3)]],
                                 mapping := [("n".toList, .int 4), ("_p".toList, .int 10)] }
private def got (n : String) : Option Int :=
  match precedence tpl args n.toList with
  | some (.int i) => some i
  | _ => none
-- client before mapping before defaults; the last client first; private names skip the clients
example : got "n" = some 2 ∧ got "m" = some 3 ∧ got "_p" = some 10 ∧ got "zz" = none := by decide
end Example

/-! ### The instance lookup of the model is the one of the source

`GenNs.instGetitemGen` is regenerated on every run by translating the statements of `InstanceDict.__getitem__` in /repo
(the cache test, the private-name test, the choice of `get`, the read inside `try … except AttributeError`, the cache
store; harness/trans_ns.py).  It computes `frameGet` on an instance frame - the function every lookup theorem above (and
the guard theorems of C05, the per-item pushes of C10) rests on. -/
theorem gen_instancedict_getitem_is_model (env : Env) (v : Val) (cache : List (Text × Val)) (key : Text)
    (tr : List Event) :
    GenNs.instGetitemGen env v cache key tr = frameGet env (.inst v cache) key tr := by
  unfold GenNs.instGetitemGen GenNs.getAttr
  simp only [frameGet]
  cases List.lookup key cache with
  | some c => rfl
  | none =>
    dsimp only
    by_cases hu : key.head? = some '_'
    · rw [if_pos hu, if_pos hu]
      exact ite_not ..
    · rw [if_neg hu, if_neg hu]
      cases v with
      | obj id attrs =>
        dsimp only
        by_cases hd : (env.guardOn && isDenied env id key) = true
        · rw [if_pos hd, if_pos hd]
        · rw [if_neg hd, if_neg hd]
          cases attrs.lookup key <;> rfl
      | _ => rfl

/-- **The namespace lookup of the model is the one of the source**: `GenNs.getitemLoopGen` is regenerated on every run from
`TemplateDict.getitem` (the loop over `reversed(self._data)`, `try: e = e[key] except (KeyError, NameError): continue`, the
`if call:` block with its tests in the order of the source, `raise KeyError(key)`); started on the whole namespace it
computes `Render.getitem` - `md[name]` with `call = true`, `md.getitem(name, 0)` with `call = false`. -/
theorem gen_templatedict_getitem_is_model (env : Env) (fuel : Nat) (key : Text) (call : Bool) (st : St) :
    GenNs.getitemLoopGen env fuel key call st.stack [] st = getitem env (fuel + 1) key call st := by
  -- the loop passes a frame without the key and stops at an exception or at the first value: an instance of `lookupStack_loop`
  rw [getitem_succ, lookupStack_loop env key (GenNs.getitemLoopGen env fuel key call) (fun st => (.raise (keyError key), st))
    (fun e st => (.raise e, st))
    (fun v st => if call then
        match v with
        | .fn id r => invoke env id r st
        | .tmpl id => callSub env fuel id st
        | v => (.ok v, st)
      else (.ok v, st)) (fun _ _ => rfl)]
  · rfl
  · intro f below above st
    rw [GenNs.getitemLoopGen]
    rcases frameGet env f key st.trace with ⟨v | _ | _, tr⟩
    · cases call with
      | false => rfl
      | true =>
        -- the tests of the `if call:` block, on each kind of value, choose the arm the model's `match` chooses
        cases v <;> rfl
    · rfl
    · rfl

/-! ### The call of the model is `String.__call__` of the source

`GenCall.callGen` is regenerated on every run by translating `String.__call__` in /repo statement by statement
(harness/trans_call.py): which data sources are pushed in which order on a new namespace (`md = TemplateDict()`) or on
the caller's (`md = mapping`), which of them are counted in `pushed`, the recursion guard with the limit of the source,
`md.level = level + 1`, the clients (one InstanceDict each, in order), the template's variables, the keyword arguments, the
rendering with `except DTReturn`, and `finally: if pushed: md._pop(pushed); md.level = level`. -/

/-- a top-level call builds exactly `callStack` - the order `lookup_precedence` / `lookup_precedence_full` are about - and
renders the blocks in it at level 1; a value handed to dtml-return is the result -/
theorem gen_call_is_topCall (env : Env) (fuel : Nat) (t : Template) (clients : List Val) (m kw : List (Text × Val)) :
    (GenCall.callGen env fuel t clients (.dict m) kw {}).1 = (topCall env fuel t ⟨clients, m, kw⟩).1 ∧
    (GenCall.callGen env fuel t clients (.dict m) kw {}).2.trace = (topCall env fuel t ⟨clients, m, kw⟩).2.trace :=
  Lemmas.Call.call_on_new_namespace env fuel t clients m kw

/-- a template invoked by name from another template (`e(None, md)`): `subtemplate_sees_caller` speaks about the source -/
theorem gen_call_is_callSub (env : Env) (fuel id : Nat) (t : Template) (st : St) (ht : env.templates[id]? = some t) :
    GenCall.callGen env fuel t [] .namespace [] st = callSub env (fuel + 1) id st :=
  Lemmas.Call.call_on_caller_namespace env fuel id t st ht

/-! ### `md[name]`, `name in md` / `md.has_key(name)`, `len(md)` are the ones of the source

`GenStack.subscriptGen`, `containsGen`, `hasKeyGen`, `lenGen` are regenerated on every run from `TemplateDict.__getitem__`,
`__contains__`, `has_key`, `__len__` (harness/trans_stack.py).  The loops of the source run over `reversed(self._data)` (from
the data source pushed last down) or over `self._data`; the model's stack has the TOP FIRST (`GenStack.dataOf st =
st.stack.reverse` is `_data`), so `reversed(self._data)` is the stack itself. -/

theorem iterOf_reversed (st : St) : GenStack.iterOf true st = st.stack := by
  simp [GenStack.iterOf, GenStack.dataOf, GenStack.tdOf]

/-- `md[name]` - `self.getitem(name, call=1)` - is `getitem` with auto-call -/
theorem gen_subscript_is_model (env : Env) (fuel : Nat) (name : Text) (st : St) :
    GenStack.subscriptGen env fuel name st = getitem env (fuel + 1) name true st := by
  simp only [GenStack.subscriptGen, iterOf_reversed]
  rw [gen_templatedict_getitem_is_model]
  rfl

/-- **`key in md` of the source is `hasKey` of the model**: the loop over `reversed(self._data)` with `try: e = e[key] except
(KeyError, NameError): continue`, `return True`, and `return False` after the loop -/
theorem gen_contains_is_model (env : Env) (key : Text) (st : St) :
    GenStack.containsGen env key st = hasKey env key st := by
  rw [GenStack.containsGen, iterOf_reversed, hasKey, lookupStack_loop env key (GenStack.containsLoopGen env key)
    (fun st => (.ok false, st)) (fun e st => (.raise e, st)) (fun _ st => (.ok true, st)) (fun _ _ => rfl)]
  · rfl
  · intro f below above st
    rw [GenStack.containsLoopGen]
    rcases frameGet env f key st.trace with ⟨_ | _ | _, tr⟩ <;> rfl

/-- `md.has_key(key)` is `key in md` -/
theorem gen_has_key_is_model (env : Env) (key : Text) (st : St) :
    GenStack.hasKeyGen env key st = hasKey env key st := by
  simp only [GenStack.hasKeyGen, gen_contains_is_model, GenStack.mapBool]
  cases hasKey env key st with
  | mk r st' => cases r <;> rfl

/-- `has_key` answers true exactly when `md.getitem(key, 0)` hands out a value, false exactly when it raises the KeyError
of the name; an exception of a data source ends both; and both leave the same namespace behind -/
theorem has_key_agrees_with_getitem (env : Env) (fuel : Nat) (key : Text) (st : St) :
    (match hasKey env key st, getitem env (fuel + 1) key false st with
     | (.ok true, s1), (.ok _, s2) => s1 = s2
     | (.ok false, s1), (.raise e, s2) => e = keyError key ∧ s1 = s2
     | (.raise e1, s1), (.raise e2, s2) => e1 = e2 ∧ s1 = s2
     | _, _ => False) := by
  simp only [hasKey, getitem]
  cases lookupStack env st.stack key st.trace with
  | mk r tr => cases r <;> simp

private theorem lenLoop_spec (flen : Frame → Int) : ∀ (xs : List Frame) (total : Int),
    GenStack.lenLoopGen flen xs total = total + (xs.map flen).sum := by
  intro xs
  induction xs with
  | nil => intro total; simp [GenStack.lenLoopGen]
  | cons x t ih =>
    intro total
    simp only [GenStack.lenLoopGen, ih, List.map_cons, List.sum_cons]
    omega

/-- `len(md)` is the sum of the sizes of the data sources (in whatever order the loop passes them) -/
theorem gen_len_is_model (flen : Frame → Int) (st : St) :
    GenStack.lenGen flen st = (st.stack.map flen).sum := by
  simp only [GenStack.lenGen, lenLoop_spec, GenStack.iterOf, GenStack.dataOf, GenStack.tdOf]
  simp only [if_neg Bool.false_ne_true, Int.zero_add]
  rw [List.map_reverse, List.sum_reverse]

/-! #### how dtml-var obtains its value: the fetch part of `Var.render`, translated from the source on every run

`GenFetch.fetchGen` is regenerated on every run by translating `DT_Var.Var.render` statement by statement from its top to
the `fmt=` stage (harness/trans_fetch.py): `val = self.expr; if val is None:` - the tag names a variable - `if name in
md:` (a walk down the stack that calls nothing), then `md[name]` (the lookup with auto-call); `else:` `missing` when the
tag has it, else `raise KeyError(name)`; an expression is evaluated (`missing` does not apply to it); then the null test
`'null' in args and not val and val != 0`.  The stages after it are the parameter `rest` of `fetchGen`; here it is
`Lemmas.Fetch.afterNull env hq`, what the model's dtml-var does with a value that has passed the null test (html quoting when
`hq`, insertion).  `url` / `absolute_url()` are outside the interpreter model (a tag of the model has no `url` attribute:
`url := none`). -/

/-- **A dtml-var with `missing` / `null` on a name is looked up as the source says**: membership first, `missing` or
KeyError for an undefined name, one `md[name]` for a defined one, the null test on the value - `renderBlk` on `.var`. -/
theorem gen_var_fetch_name_is_model (env : Env) (fuel : Nat) (n : Text) (hq : Bool) (missing null : Option Text)
    (absUrl : Val → St → Res Val × St) (st : St) (h : (missing.isSome || null.isSome) = true) :
    GenFetch.fetchGen env fuel (.name n) ⟨missing, null, none⟩ absUrl (Lemmas.Fetch.afterNull env hq) st =
      renderBlk env (fuel + 1) (.var (.name n) hq missing null) st := by
  show _ = (if (missing.isSome || null.isSome) = true then _ else _)
  rw [if_pos h]
  unfold GenFetch.fetchGen GenFetch.mdContains
  dsimp only
  cases hl : lookupStack env st.stack n st.trace with
  | mk r tr =>
    cases r with
    | missing => cases missing <;> rfl
    | raise e => rfl
    | val v stack' => exact Lemmas.Fetch.bind_item_is_fetchVar env fuel n hq ⟨missing, null, none⟩ _

/-- **A dtml-var on an expression**: `expr.eval(md)`, no `missing`, the null test on the value. -/
theorem gen_var_fetch_expr_is_model (env : Env) (fuel : Nat) (e : Expr) (hq : Bool) (missing null : Option Text)
    (absUrl : Val → St → Res Val × St) (st : St) :
    GenFetch.fetchGen env fuel (.expr e) ⟨missing, null, none⟩ absUrl (Lemmas.Fetch.afterNull env hq) st =
      renderBlk env (fuel + 1) (.var (.expr e) hq missing null) st :=
  Lemmas.Fetch.bind_eval_is_fetchVar env fuel e hq ⟨missing, null, none⟩ st

end DTML.Props.C02
