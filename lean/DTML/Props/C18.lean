/-
C18 — Concurrent renders of one shared template give sequential results.
Model: DTML/Conc.lean (threads as sequences of atomic steps over the shared volatile state of
one template object; a schedule is any list of thread ids).  After the invariant and its three consequences: the order
of a call's actions on the shared state as translated from the source (GenTmpl.callProgramGen) against `stepThread`, and
a two-step race on one cell, a model of its own, for what `Inv.cells` excludes.
-/
import DTML.Conc
import DTML.GenTmpl
namespace DTML.Props.C18
open DTML.Conc

variable {Src Prog Cell Val Inp Out : Type} [DecidableEq Cell]

/-- what must hold of a thread at its program counter -/
def PcOk (E : Engine Src Prog Cell Val Inp Out) (raw : Src) (sh : Shared Prog Cell Val) (inp : Inp) :
    PC Prog Cell Val Out → Prop
  | .test => True
  | .acquire => True
  | .writeBlocks => True
  | .writeFlag => sh.blocks = some (E.parse raw)
  | .release => sh.blocks = some (E.parse raw)
  | .readBlocks => sh.blocks = some (E.parse raw)
  | .cells p todo acc => p = E.parse raw ∧ acc ++ todo.map E.cellVal = (E.cellsOf p).map E.cellVal
  | .done r => r = solo E raw inp

/-- the invariant of the whole system -/
structure Inv (E : Engine Src Prog Cell Val Inp Out) (raw : Src) (inputs : List Inp) (s : Sys Prog Cell Val Out) : Prop where
  blocks : s.shared.blocks = none ∨ s.shared.blocks = some (E.parse raw)
  /-- publication order: whoever sees the flag also sees the complete program -/
  flag : s.shared.flag = true → s.shared.blocks = some (E.parse raw)
  /-- every cache cell holds the one value every writer writes -/
  cells : ∀ c v, s.shared.cells.lookup c = some v → v = E.cellVal c
  threads : ∀ (tid : Nat) (pc : PC Prog Cell Val Out) (inp : Inp),
    s.pcs[tid]? = some pc → inputs[tid]? = some inp → PcOk E raw s.shared inp pc

theorem inv_init (E : Engine Src Prog Cell Val Inp Out) (raw : Src) (inputs : List Inp) (n : Nat) :
    Inv E raw inputs (init n : Sys Prog Cell Val Out) where
  blocks := Or.inl rfl
  flag := by intro h; cases h
  cells := by intro c v h; simp [init] at h
  threads := by
    intro tid pc inp h _
    simp only [init, List.getElem?_replicate] at h
    split at h
    · cases h; trivial
    · cases h

/-- a thread's obligation only needs "the program, once published, stays published" -/
theorem pcOk_mono (E : Engine Src Prog Cell Val Inp Out) (raw : Src) (sh sh' : Shared Prog Cell Val) (inp : Inp)
    (pc : PC Prog Cell Val Out) (hb : sh.blocks = some (E.parse raw) → sh'.blocks = some (E.parse raw))
    (h : PcOk E raw sh inp pc) : PcOk E raw sh' inp pc := by
  cases pc with
  | writeFlag | release | readBlocks => exact hb h
  | _ => exact h

/-- the part of the invariant that speaks of the shared state alone -/
structure SharedOk (E : Engine Src Prog Cell Val Inp Out) (raw : Src) (sh : Shared Prog Cell Val) : Prop where
  blocks : sh.blocks = none ∨ sh.blocks = some (E.parse raw)
  flag : sh.flag = true → sh.blocks = some (E.parse raw)
  cells : ∀ c v, sh.cells.lookup c = some v → v = E.cellVal c

private theorem SharedOk.setLock {E : Engine Src Prog Cell Val Inp Out} {raw : Src} {sh : Shared Prog Cell Val}
    (h : SharedOk E raw sh) (l : Option Nat) : SharedOk E raw { sh with lock := l } :=
  ⟨h.blocks, h.flag, h.cells⟩

private theorem Inv.sharedOk {E : Engine Src Prog Cell Val Inp Out} {raw : Src} {inputs : List Inp} {s : Sys Prog Cell Val Out}
    (h : Inv E raw inputs s) : SharedOk E raw s.shared :=
  ⟨h.blocks, h.flag, h.cells⟩

/-- filling an empty cell with the value every writer writes -/
theorem cells_fill (E : Engine Src Prog Cell Val Inp Out) (cells : List (Cell × Val)) (c : Cell)
    (h : ∀ c' v, cells.lookup c' = some v → v = E.cellVal c') :
    ∀ c' v, ((c, E.cellVal c) :: cells).lookup c' = some v → v = E.cellVal c' := by
  intro c' v hl
  rw [List.lookup_cons] at hl
  split at hl
  next heq => rw [← Option.some.inj hl, eq_of_beq heq]
  next => exact h c' v hl

/-- one step of a thread, seen from that thread: the shared state stays good, a published program stays published, and
the thread meets its obligation at its new program counter -/
theorem stepThread_ok (E : Engine Src Prog Cell Val Inp Out) (raw : Src) (sh : Shared Prog Cell Val) (tid : Nat)
    (inp : Inp) (pc : PC Prog Cell Val Out) (hs : SharedOk E raw sh) (hme : PcOk E raw sh inp pc) :
    SharedOk E raw (stepThread E raw sh tid inp pc).1 ∧
    (sh.blocks = some (E.parse raw) → (stepThread E raw sh tid inp pc).1.blocks = some (E.parse raw)) ∧
    PcOk E raw (stepThread E raw sh tid inp pc).1 inp (stepThread E raw sh tid inp pc).2 := by
  cases pc with
  | test =>
    simp only [stepThread]
    split
    next hfl => exact ⟨hs, id, hs.flag hfl⟩
    next => exact ⟨hs, id, trivial⟩
  | acquire =>
    simp only [stepThread]
    split
    · exact ⟨hs.setLock _, id, trivial⟩
    · exact ⟨hs, id, trivial⟩
  | writeBlocks => exact ⟨⟨Or.inr rfl, fun _ => rfl, hs.cells⟩, fun _ => rfl, rfl⟩
  | writeFlag => exact ⟨{ hs with flag := fun _ => hme }, id, hme⟩
  | release => exact ⟨hs.setLock _, id, hme⟩
  | readBlocks =>
    simp only [PcOk] at hme
    simp only [stepThread, hme]
    exact ⟨hs, id, rfl, by simp⟩
  | cells p todo acc =>
    obtain ⟨hp, hacc⟩ := hme
    cases todo with
    | nil =>
      simp only [List.map_nil, List.append_nil] at hacc
      exact ⟨hs, id, by simp only [stepThread, PcOk, solo, hacc, hp]⟩
    | cons c cs =>
      simp only [stepThread]
      cases hl : sh.cells.lookup c with
      | some v =>
        -- the cell is filled: what is read is the value every writer writes
        refine ⟨hs, id, hp, ?_⟩
        rw [← hacc, hs.cells c v hl]; simp
      | none =>
        refine ⟨{ hs with cells := cells_fill E sh.cells c hs.cells }, id, hp, ?_⟩
        rw [← hacc]; simp
  | done r => exact ⟨hs, id, hme⟩

theorem inv_step (E : Engine Src Prog Cell Val Inp Out) (raw : Src) (inputs : List Inp) (s : Sys Prog Cell Val Out)
    (tid : Nat) (h : Inv E raw inputs s) : Inv E raw inputs (stepSys E raw inputs s tid) := by
  unfold stepSys
  cases hpc : s.pcs[tid]? with
  | none => exact h
  | some pc =>
    cases hin : inputs[tid]? with
    | none => exact h
    | some inp =>
      dsimp only
      have hlt : tid < s.pcs.length := (List.getElem?_eq_some_iff.mp hpc).1
      obtain ⟨hs, hmono, hok⟩ := stepThread_ok E raw s.shared tid inp pc h.sharedOk (h.threads tid pc inp hpc hin)
      refine ⟨hs.blocks, hs.flag, hs.cells, ?_⟩
      intro t q i hq hi
      by_cases ht : t = tid
      · -- the thread that moved
        subst ht
        rw [List.getElem?_set_self hlt] at hq
        rw [hin] at hi
        cases hq; cases hi
        exact hok
      · -- the others only need the program to stay published
        rw [List.getElem?_set_ne (Ne.symm ht)] at hq
        exact pcOk_mono E raw s.shared _ i q hmono (h.threads t q i hq hi)

theorem inv_run (E : Engine Src Prog Cell Val Inp Out) (raw : Src) (inputs : List Inp) (sched : List Nat) :
    ∀ (s : Sys Prog Cell Val Out), Inv E raw inputs s → Inv E raw inputs (runSched E raw inputs s sched) := by
  induction sched with
  | nil => intro s h; exact h
  | cons t rest ih => intro s h; exact ih _ (inv_step E raw inputs s t h)

theorem inv_reachable (E : Engine Src Prog Cell Val Inp Out) (raw : Src) (inputs : List Inp) (sched : List Nat) :
    Inv E raw inputs (runSched E raw inputs (init inputs.length) sched) :=
  inv_run E raw inputs sched _ (inv_init E raw inputs inputs.length)

/-- **Every interleaving is sequential**: under ANY schedule — any number of threads, any
pre-emption points, including threads racing to compile the template — a thread that has
finished holds exactly the result it obtains running alone. -/
theorem interleaving_sequential (E : Engine Src Prog Cell Val Inp Out) (raw : Src) (inputs : List Inp)
    (sched : List Nat) (tid : Nat) (r : Out) (inp : Inp)
    (hdone : (runSched E raw inputs (init inputs.length) sched).pcs[tid]? = some (.done r))
    (hin : inputs[tid]? = some inp) :
    r = solo E raw inp :=
  (inv_reachable E raw inputs sched).threads tid _ inp hdone hin

/-- **No thread ever observes a partially compiled template**: a thread about to read the
compiled program finds the complete one, so it never crashes for lack of it -/
theorem never_partially_compiled (E : Engine Src Prog Cell Val Inp Out) (raw : Src) (inputs : List Inp)
    (sched : List Nat) (tid : Nat) (inp : Inp)
    (hpc : (runSched E raw inputs (init inputs.length) sched).pcs[tid]? = some .readBlocks)
    (hin : inputs[tid]? = some inp) :
    (runSched E raw inputs (init inputs.length) sched).shared.blocks = some (E.parse raw) :=
  (inv_reachable E raw inputs sched).threads tid _ inp hpc hin

/-- the compiled program, once published, is the compilation of the source, whoever compiled it -/
theorem published_program (E : Engine Src Prog Cell Val Inp Out) (raw : Src) (inputs : List Inp) (sched : List Nat)
    (p : Prog) (hp : (runSched E raw inputs (init inputs.length) sched).shared.blocks = some p) :
    p = E.parse raw := by
  rcases (inv_reachable E raw inputs sched).blocks with hb | hb
  · rw [hb] at hp; cases hp
  · rw [hb] at hp; cases hp; rfl

/-! #### the order of a call's actions on the shared state, translated from DT_String.py on every run

`GenTmpl.callProgramGen` is read off `String.__call__` with `cook` inlined (harness/trans_tmpl.py): the test of
`_v_cooked`, entering `with COOKLOCK`, each volatile attribute written in the order of the source, leaving the lock, the
read of `_v_blocks` by the rendering.  The thread program of the interleaving model (`stepThread`) follows exactly this
list: every enabled step leads to the action that comes next in it - in particular the program is stored *before* the
flag that publishes it, both inside the lock (what `never_partially_compiled` and `published_program` rest on). -/

section Gen
open DTML.GenTmpl

/-- the source action a program counter of the model stands for -/
def actOf : PC Prog Cell Val Out → Option Act
  | .test => some .test
  | .acquire => some .acquire
  | .writeBlocks => some .writeBlocks
  | .writeFlag => some .writeFlag
  | .release => some .release
  | .readBlocks => some .readBlocks
  | _ => none

/-- the action after `a` in a list of actions -/
def succIn (l : List Act) (a : Act) : Option Act :=
  match l.dropWhile (· != a) with
  | _ :: b :: _ => some b
  | _ => none

theorem gen_call_program_is_model (E : Engine Src Prog Cell Val Inp Out) (raw : Src) (sh : Shared Prog Cell Val)
    (tid : Nat) (inp : Inp) :
    (sh.flag = false → actOf (stepThread E raw sh tid inp .test).2 = succIn callProgramGen .test) ∧
    (sh.flag = true → actOf (stepThread E raw sh tid inp .test).2 = callProgramGen.getLast?) ∧
    (sh.lock = none → actOf (stepThread E raw sh tid inp .acquire).2 = succIn callProgramGen .acquire) ∧
    actOf (stepThread E raw sh tid inp .writeBlocks).2 = succIn callProgramGen .writeBlocks ∧
    actOf (stepThread E raw sh tid inp .writeFlag).2 = succIn callProgramGen .writeFlag ∧
    actOf (stepThread E raw sh tid inp .release).2 = succIn callProgramGen .release ∧
    succIn callProgramGen .readBlocks = none := by
  refine ⟨fun h => ?_, fun h => ?_, fun h => ?_, rfl, rfl, rfl, rfl⟩
  · simp only [stepThread, h]; rfl
  · simp only [stepThread, h]; rfl
  · simp only [stepThread, h]; rfl

/-- the source writes the program before the flag, and both between taking and releasing the lock -/
theorem gen_call_program_publishes_last :
    callProgramGen.idxOf Act.acquire < callProgramGen.idxOf Act.writeBlocks ∧
    callProgramGen.idxOf Act.writeBlocks < callProgramGen.idxOf Act.writeFlag ∧
    callProgramGen.idxOf Act.writeFlag < callProgramGen.idxOf Act.release ∧
    callProgramGen.idxOf Act.release < callProgramGen.idxOf Act.readBlocks := by decide

end Gen


/-! #### what the proof needs: every writer of a cell writes the same value (`Inv.cells`)

A statement like `self.sort = self.sort_expr.eval(md)` on the shared compiled tag writes a value that depends on the
rendering thread into the shared program (DT_In.py had this statement until the repair D17 of DESIGN.md; it now hands
the value to `sort_sequence` as an argument).  The race below (a small model of its own, not `Conc`) shows what such a
cell does: -/

/-- one thread per key; one shared cell, written with the thread's own key and read back one step later -/
def raceStep (keys : List Nat) (cell : Option Nat) (pcs : List (Nat × Option Nat)) (tid : Nat) :
    Option Nat × List (Nat × Option Nat) :=
  match pcs[tid]?, keys[tid]? with
  | some (0, _), some k => (some k, pcs.set tid (1, none))             -- self.sort = eval(md)
  | some (1, _), some _ => (cell, pcs.set tid (2, cell))               -- sort = self.sort
  | _, _ => (cell, pcs)

def raceRun (keys : List Nat) (sched : List Nat) : List (Nat × Option Nat) :=
  (sched.foldl (fun (st : Option Nat × List (Nat × Option Nat)) t => raceStep keys st.1 st.2 t)
    (none, keys.map fun _ => (0, none))).2

/-- the schedule W₀ W₁ R₀ R₁: thread 0 reads thread 1's key; with each thread's two steps together, each reads its own -/
theorem per_render_cell_races : raceRun [10, 20] [0, 1, 0, 1] = [(2, some 20), (2, some 20)] ∧
    raceRun [10, 20] [0, 0, 1, 1] = [(2, some 10), (2, some 20)] := by decide

/-! #### the hypotheses are satisfiable -/

section Example
private def E : Engine Nat Nat Nat Nat Nat (Nat × Nat × List Nat) :=
  { parse := fun s => s + 1, cellsOf := fun p => [p, p + 1], cellVal := fun c => c * 2,
    exec := fun p i vs => (p, i, vs), crash := (0, 0, []) }
private def isDone : PC Nat Nat Nat (Nat × Nat × List Nat) → Option (Nat × Nat × List Nat)
  | .done r => some r
  | _ => none
-- three threads racing to compile: 0 and 1 both pass the test before either has cooked
private def sched : List Nat :=
  [0, 1, 0, 2, 0, 0, 0, 1, 1, 1, 1, 1, 0, 0, 0, 0, 1, 1, 1, 1, 2, 2, 2, 2, 2, 2, 2] ++ List.replicate 8 0 ++ List.replicate 8 1 ++ List.replicate 8 2
example : ((runSched E 5 [100, 200, 300] (init 3) sched).pcs.map isDone) =
    [some (6, 100, [12, 14]), some (6, 200, [12, 14]), some (6, 300, [12, 14])] := by decide +kernel
end Example

end DTML.Props.C18
